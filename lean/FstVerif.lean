import FstVerif.Gen.Tables
import FstVerif.Model.Aut
import FstVerif.Model.Basic
import FstVerif.Model.Build
import FstVerif.Model.Bytes
import FstVerif.Model.Crc
import FstVerif.Model.Frontends
import FstVerif.Model.Glue
import FstVerif.Model.Lev
import FstVerif.Model.Lines
import FstVerif.Model.Merge
import FstVerif.Model.Node
import FstVerif.Model.Ops
import FstVerif.Model.Reader
import FstVerif.Model.Registry
import FstVerif.Model.Sched
import FstVerif.Model.Sink
import FstVerif.Model.Stream
import FstVerif.Model.Text
import FstVerif.Model.Wrappers
import FstVerif.Proofs.Aut
import FstVerif.Proofs.Bounds
import FstVerif.Proofs.BoundsBuild
import FstVerif.Proofs.BoundsOps
import FstVerif.Proofs.BoundsStream
import FstVerif.Proofs.Build
import FstVerif.Proofs.BuildReach
import FstVerif.Proofs.BuildSide
import FstVerif.Proofs.BuildStore
import FstVerif.Proofs.Bytes
import FstVerif.Proofs.Codec
import FstVerif.Proofs.CodecAny
import FstVerif.Proofs.CodecBytes
import FstVerif.Proofs.CodecOne
import FstVerif.Proofs.Crc
import FstVerif.Proofs.Den
import FstVerif.Proofs.EndToEnd
import FstVerif.Proofs.EndToEndExample
import FstVerif.Proofs.EndToEndFile
import FstVerif.Proofs.EndToEndRoot
import FstVerif.Proofs.EofLift
import FstVerif.Proofs.Frame
import FstVerif.Proofs.Frontends
import FstVerif.Proofs.Glue
import FstVerif.Proofs.KeyOrder
import FstVerif.Proofs.Lev
import FstVerif.Proofs.LevDfa
import FstVerif.Proofs.LevDfaInv
import FstVerif.Proofs.LevDfaSeq
import FstVerif.Proofs.LevDfaStep
import FstVerif.Proofs.LevDfaUtf8
import FstVerif.Proofs.LevDfaWords
import FstVerif.Proofs.Lines
import FstVerif.Proofs.Lookup
import FstVerif.Proofs.Merge
import FstVerif.Proofs.Minimal
import FstVerif.Proofs.OldVer
import FstVerif.Proofs.OldVerCodec
import FstVerif.Proofs.OldVerFile
import FstVerif.Proofs.OldVerTrie
import FstVerif.Proofs.Open
import FstVerif.Proofs.Ops
import FstVerif.Proofs.Reach
import FstVerif.Proofs.Registry
import FstVerif.Proofs.Sched
import FstVerif.Proofs.SchedA
import FstVerif.Proofs.SchedB
import FstVerif.Proofs.Seek
import FstVerif.Proofs.Sink
import FstVerif.Proofs.SpecParse
import FstVerif.Proofs.SpecParseBuild
import FstVerif.Proofs.SpecParseWalk
import FstVerif.Proofs.Store
import FstVerif.Proofs.Stream
import FstVerif.Proofs.StreamStep
import FstVerif.Proofs.Wrappers
import FstVerif.Props.C01
import FstVerif.Props.C02
import FstVerif.Props.C03
import FstVerif.Props.C04
import FstVerif.Props.C05
import FstVerif.Props.C06
import FstVerif.Props.C07
import FstVerif.Props.C08
import FstVerif.Props.C09
import FstVerif.Props.C10
import FstVerif.Props.C11
import FstVerif.Props.C12
import FstVerif.Props.C13
import FstVerif.Props.C14
import FstVerif.Props.C15
import FstVerif.Props.C16
import FstVerif.Props.C17
import FstVerif.Props.C18
import FstVerif.Props.C19
import FstVerif.Props.C20
import FstVerif.Spec.Crc
import FstVerif.Spec.Encode
import FstVerif.Spec.Format
import FstVerif.Spec.Lev
import FstVerif.Spec.Utf8
