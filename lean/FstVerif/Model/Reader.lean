import FstVerif.Model.Node
import FstVerif.Model.Crc
/-
Mirror of the read side of `src/raw/mod.rs`: `Fst::new`, metadata accessors
(the fields of `Meta`), `verify`, `get`, `contains_key`, `get_key_into`. Node access goes through a
`NodeAccess` record so that the algorithms can be proved once against an
abstract store and run against bytes.
-/
namespace Fst

/-- results of calls that may panic in Rust -/
inductive Outcome (ε α : Type)
  | ok (a : α)
  | err (e : ε)
  | panic (tag : String)
deriving Repr, Inhabited, DecidableEq

inductive OpenErr
  | format (size : Nat)
  | version (expected got : Nat)
deriving Repr, Inhabited, DecidableEq

inductive VerifyErr
  | checksumMissing
  | checksumMismatch (expected got : Nat)
deriving Repr, Inhabited, DecidableEq

structure Meta where
  version : Nat
  rootAddr : Nat
  ty : Nat
  len : Nat
  checksum : Option Nat
deriving Repr, Inhabited, DecidableEq

/-- `Fst::new`: every slice operation of the Rust code is an explicit bounds
check here (`Src.unpackAt … = none` ⇒ `panic`). -/
def fstNew (d : Src) : Outcome OpenErr Meta :=
  let n := d.size
  if n < 32 then .err (.format n) else
  match d.unpackAt 0 8 with
  | none => .panic "bytes[..8]"
  | some version =>
    if version = 0 ∨ version > Gen.VERSION then .err (.version Gen.VERSION version) else
    if version ≥ 3 ∧ n < 36 then .err (.format n) else
    match d.unpackAt 8 8 with
    | none => .panic "bytes[8..][..8]"
    | some ty =>
      let endCk : Option (Nat × Option Nat) :=
        if version ≤ 2 then some (n, none)
        else if n < 4 then none
        else (d.unpackAt (n - 4) 4).map fun c => (n - 4, some c)
      match endCk with
      | none => .panic "bytes[len-4..][..4]"
      | some (end_, checksum) =>
        if end_ < 16 then .panic "bytes[end-16..]" else
        match d.unpackAt (end_ - 8) 8, d.unpackAt (end_ - 16) 8 with
        | some rootAddr, some len =>
          let emptyTotal := if version ≤ 2 then 32 else 36
          let addrOffset := if version ≤ 2 then 17 else 21
          -- `root_addr + addr_offset` is only evaluated when `root_addr == 0`
          if (rootAddr = EMPTY_ADDRESS ∧ n ≠ emptyTotal) ∧ rootAddr + addrOffset ≠ n then
            .err (.format n)
          else .ok { version, rootAddr, ty, len, checksum }
        | _, _ => .panic "bytes[end-8..] / bytes[end-16..]"

/-- bytes `0 .. n` of a source as a list (for checksumming) -/
def Src.prefix (d : Src) (n : Nat) : Option (List UInt8) := d.read 0 n

/-- `Fst::verify` -/
def fstVerify (m : Meta) (d : Src) : Outcome VerifyErr Unit :=
  match m.checksum with
  | none => .err .checksumMissing
  | some expected =>
    if d.size < 4 then .panic "as_bytes()[..len-4]" else
    match d.prefix (d.size - 4) with
    | none => .panic "as_bytes()[..len-4]"
    | some body =>
      let got := (maskedSum (crc32cSlice16 0 body)).toNat
      if expected = got then .ok () else .err (.checksumMismatch expected got)

/-! ### node access -/

structure NodeAccess (N : Type) where
  node : Nat → Option N                       -- `Fst::node(addr)`; `none` = panic
  addr : N → Nat
  isFinal : N → Bool
  finalOutput : N → Nat
  len : N → Nat
  transition : N → Nat → Option Tr
  transitionAddr : N → Nat → Option Nat
  findInput : N → UInt8 → Option (Option Nat)

/-- node access over the bytes of an opened FST -/
def byteAccess (version : Nat) (d : Src) : NodeAccess RNode where
  node := nodeNew version d
  addr := (·.start)
  isFinal := (·.fin)
  finalOutput := (·.fout)
  len := (·.ntrans)
  transition := fun n i => n.transition d i
  transitionAddr := fun n i => n.transAddr d i
  findInput := fun n b => n.findInput d b

variable {N : Type}

/-- `FstRef::get` -/
def getGo (acc : NodeAccess N) (node : N) (out : Nat) : Key → Option (Option Nat)
  | [] => some (if acc.isFinal node then some (out + acc.finalOutput node) else none)
  | b :: bs =>
    match acc.findInput node b with
    | none => none
    | some none => some none
    | some (some i) =>
      match acc.transition node i with
      | none => none
      | some t =>
        match acc.node t.addr with
        | none => none
        | some n' => getGo acc n' (out + t.out) bs

def fstGet (acc : NodeAccess N) (root : Nat) (key : Key) : Option (Option Nat) :=
  match acc.node root with
  | none => none
  | some r => getGo acc r 0 key

/-- `FstRef::contains_key` -/
def containsGo (acc : NodeAccess N) (node : N) : Key → Option Bool
  | [] => some (acc.isFinal node)
  | b :: bs =>
    match acc.findInput node b with
    | none => none
    | some none => some false
    | some (some i) =>
      match acc.transitionAddr node i with
      | none => none
      | some a =>
        match acc.node a with
        | none => none
        | some n' => containsGo acc n' bs

def fstContains (acc : NodeAccess N) (root : Nat) (key : Key) : Option Bool :=
  match acc.node root with
  | none => none
  | some r => containsGo acc r key

/-- `node.transitions().take_while(|t| t.out <= value).last()` -/
def lastLe (acc : NodeAccess N) (node : N) (value : Nat) : Nat → Nat → Option Tr → Option (Option Tr)
  | 0, _, best => some best
  | k+1, i, best =>
    match acc.transition node i with
    | none => none
    | some t => if t.out ≤ value then lastLe acc node value k (i+1) (some t) else some best

/-- `FstRef::get_key_into`; the key bytes pushed and the result. `fuel` bounds
the descent (one node per step). Outer `none` = panic or fuel exhausted. -/
def getKeyGo (acc : NodeAccess N) : Nat → N → Nat → Key → Option (Bool × Key)
  | 0, _, _, _ => none
  | fuel+1, node, value, key =>
    if acc.isFinal node && value == acc.finalOutput node then some (true, key) else
    match lastLe acc node value (acc.len node) 0 none with
    | none => none
    | some none => some (false, key)
    | some (some t) =>
      match acc.node t.addr with
      | none => none
      | some n' => getKeyGo acc fuel n' (value - t.out) (key ++ [t.inp])

def fstGetKeyInto (acc : NodeAccess N) (root : Nat) (fuel : Nat) (value : Nat) (key : Key) :
    Option (Bool × Key) :=
  match acc.node root with
  | none => none
  | some r => getKeyGo acc fuel r value key

end Fst
