import FstVerif.Model.Reader
import FstVerif.Model.Aut
/-
Mirror of `Bound`, `StreamBuilder`, `StreamWithState::{new, seek_min,
next_with}` in `src/raw/mod.rs`.
-/
namespace Fst

inductive Bound
  | included (k : Key)
  | excluded (k : Key)
  | unbounded
deriving Repr, Inhabited, DecidableEq

/-- `Bound::exceeded_by` -/
def Bound.exceededBy (b : Bound) (inp : Key) : Bool :=
  match b with
  | .included v => lexLt v inp
  | .excluded v => !lexLt inp v
  | .unbounded => false

def Bound.isEmpty : Bound → Bool
  | .included v => v.isEmpty
  | .excluded v => v.isEmpty
  | .unbounded => true

def Bound.isInclusive : Bound → Bool
  | .excluded _ => false
  | _ => true

/-- `StreamBuilder` (`ge`/`gt` set `min`, `le`/`lt` set `max`; the last call of a kind wins) -/
structure RangeSpec where
  min : Bound := .unbounded
  max : Bound := .unbounded
deriving Repr, Inhabited

def RangeSpec.ge (r : RangeSpec) (k : Key) : RangeSpec := { r with min := .included k }
def RangeSpec.gt (r : RangeSpec) (k : Key) : RangeSpec := { r with min := .excluded k }
def RangeSpec.le (r : RangeSpec) (k : Key) : RangeSpec := { r with max := .included k }
def RangeSpec.lt (r : RangeSpec) (k : Key) : RangeSpec := { r with max := .excluded k }

/-- `StreamState` -/
structure Frame (N σ : Type) where
  node : N
  trans : Nat
  out : Nat
  autState : σ

/-- `StreamWithState` (without the immutable `fst`/`aut`) -/
structure SState (N σ : Type) where
  inp : Key
  emptyOutput : Option Nat
  stack : List (Frame N σ)       -- top of the stack first
  endAt : Bound

variable {N σ : Type}

/-- `node.transitions().position(|t| t.inp > b).unwrap_or(node.len())` -/
def posGreater (acc : NodeAccess N) (node : N) (b : UInt8) : Nat → Nat → Option Nat
  | 0, i => some i
  | k+1, i =>
    match acc.transition node i with
    | none => none
    | some t => if t.inp > b then some i else posGreater acc node b k (i+1)

/-- the `for &b in key` loop of `seek_min`; outer `none` = panic; result `(inp, stack, r)`:
`r = none` = returned early (stack final), `r = some (node, out, aut state)` = fell through. -/
def seekLoop (acc : NodeAccess N) (A : Aut σ) :
    Key → N → Nat → σ → Key → List (Frame N σ) →
      Option (Key × List (Frame N σ) × Option (N × Nat × σ))
  | [], node, out, st, inp, stack => some (inp, stack, some (node, out, st))
  | b :: bs, node, out, st, inp, stack =>
    match acc.findInput node b with
    | none => none
    | some (some i) =>
      match acc.transition node i with
      | none => none
      | some t =>
        match acc.node t.addr with
        | none => none
        | some n' =>
          seekLoop acc A bs n' (out + t.out) (A.accept st b) (inp ++ [b])
            (⟨node, i + 1, out, st⟩ :: stack)
    | some none =>
      match posGreater acc node b (acc.len node) 0 with
      | none => none
      | some p => some (inp, ⟨node, p, out, st⟩ :: stack, none)

/-- `StreamWithState::new` + `seek_min`; `none` = panic -/
def streamNew (acc : NodeAccess N) (A : Aut σ) (root : Nat) (min max : Bound) :
    Option (SState N σ) :=
  match acc.node root with
  | none => none
  | some r =>
    if min.isEmpty then
      let eo := if min.isInclusive then (if acc.isFinal r then some (acc.finalOutput r) else none) else none
      some { inp := [], emptyOutput := eo, stack := [⟨r, 0, 0, A.start⟩], endAt := max }
    else
      let (key, inclusive) := match min with
        | .excluded k => (k, false)
        | .included k => (k, true)
        | .unbounded => ([], true)
      match seekLoop acc A key r 0 A.start [] [] with
      | none => none
      | some (inp, stack, none) => some { inp, emptyOutput := none, stack, endAt := max }
      | some (inp, stack, some (_, out, st)) =>
        match stack with
        | [] => some { inp, emptyOutput := none, stack, endAt := max }
        | top :: rest =>
          if inclusive then
            -- Rust: `self.stack[last].trans -= 1` (usize underflow would panic; `trans = i+1 ≥ 1`)
            if top.trans = 0 then none else
            some { inp := inp.dropLast, emptyOutput := none,
                   stack := { top with trans := top.trans - 1 } :: rest, endAt := max }
          else
            if top.trans = 0 then none else
            match acc.transition top.node (top.trans - 1) with
            | none => none
            | some t =>
              match acc.node t.addr with
              | none => none
              | some n' =>
                some { inp, emptyOutput := none, stack := ⟨n', 0, out, st⟩ :: top :: rest, endAt := max }

/-- result of one iteration of the work of `next_with` (`streamStep`): either the `empty_output`
prologue or one pass of the `while let Some(state) = self.stack.pop()` loop. -/
inductive StepRes (N σ : Type)
  | panic
  | done (s : SState N σ)                             -- `next` returns `None`
  | emit (k : Key) (v : Nat) (st : σ) (s : SState N σ)  -- `next` returns `Some`
  | cont (s : SState N σ)                             -- keep looping

def streamStep (acc : NodeAccess N) (A : Aut σ) (root : Nat) (s : SState N σ) : StepRes N σ :=
  match s.emptyOutput with
  | some out =>
    let s := { s with emptyOutput := none }
    if s.endAt.exceededBy [] then .done { s with stack := [] }
    else if A.isMatch A.start then .emit [] out A.start s
    else .cont s
  | none =>
    match s.stack with
    | [] => .done s
    | f :: rest =>
      if f.trans ≥ acc.len f.node || !A.canMatch f.autState then
        if acc.addr f.node ≠ root then
          -- `self.inp.pop().unwrap()`
          if s.inp.isEmpty then .panic else .cont { s with stack := rest, inp := s.inp.dropLast }
        else .cont { s with stack := rest }
      else
        match acc.transition f.node f.trans with
        | none => .panic
        | some t =>
          let out := f.out + t.out
          let nextState := A.accept f.autState t.inp
          match acc.node t.addr with
          | none => .panic
          | some nn =>
            let isMatch0 := A.isMatch nextState
            let isMatch :=
              if acc.isFinal nn then
                match A.acceptEof nextState with
                | some e => A.isMatch e
                | none => isMatch0
              else isMatch0
            let inp := s.inp ++ [t.inp]
            let stack := ⟨nn, 0, out, nextState⟩ :: { f with trans := f.trans + 1 } :: rest
            if s.endAt.exceededBy inp then .done { s with inp, stack := [] }
            else if acc.isFinal nn && isMatch then
              .emit inp (out + acc.finalOutput nn) nextState { s with inp, stack }
            else .cont { s with inp, stack }

/-- `next_with`: loop until something is returned -/
def streamNext (acc : NodeAccess N) (A : Aut σ) (root : Nat) :
    Nat → SState N σ → Option (Option (Key × Nat × σ) × SState N σ)
  | 0, _ => none
  | fuel+1, s =>
    match streamStep acc A root s with
    | .panic => none
    | .done s' => some (none, s')
    | .emit k v st s' => some (some (k, v, st), s')
    | .cont s' => streamNext acc A root fuel s'

/-- drain a stream: every item returned by repeated `next` calls until `None` -/
def streamCollect (acc : NodeAccess N) (A : Aut σ) (root : Nat) :
    Nat → SState N σ → List (Key × Nat × σ) → Option (List (Key × Nat × σ))
  | 0, _, _ => none
  | fuel+1, s, accum =>
    match streamStep acc A root s with
    | .panic => none
    | .done _ => some accum.reverse
    | .emit k v st s' => streamCollect acc A root fuel s' ((k, v, st) :: accum)
    | .cont s' => streamCollect acc A root fuel s' accum

end Fst
