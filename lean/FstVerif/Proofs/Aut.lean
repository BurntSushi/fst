import FstVerif.Model.Aut
/-
Proofs for C18 (and the contract lemmas of C04): what `run` does in the built-in
automata and combinators, soundness of the pruning hints. Arbitrary component
automata over arbitrary state types.
-/
namespace Fst

variable {σ τ : Type}

/-- both hint clauses of the `Automaton` contract, for every state -/
def HintsSound (A : Aut σ) : Prop :=
  (∀ s, A.canMatch s = false → ∀ w, A.isMatch (A.run s w) = false) ∧
  (∀ s, A.willAlwaysMatch s = true → ∀ w, A.isMatch (A.run s w) = true)

theorem run_nil (A : Aut σ) (s : σ) : A.run s [] = s := rfl
theorem run_cons (A : Aut σ) (s : σ) (b : UInt8) (w : Key) :
    A.run s (b :: w) = A.run (A.accept s b) w := rfl
theorem run_append (A : Aut σ) (s : σ) (u w : Key) : A.run s (u ++ w) = A.run (A.run s u) w := by
  simp [Aut.run, List.foldl_append]

theorem run_snoc (A : Aut σ) (s : σ) (p : Key) (b : UInt8) :
    A.run s (p ++ [b]) = A.accept (A.run s p) b :=
  run_append A s p [b]

theorem run_hom {A : Aut σ} {B : Aut τ} (f : σ → τ)
    (h : ∀ s b, f (A.accept s b) = B.accept (f s) b) (s : σ) (w : Key) :
    f (A.run s w) = B.run (f s) w := by
  induction w generalizing s with
  | nil => rfl
  | cons b w ih => rw [run_cons, run_cons, ih, h]

theorem run_fixed {A : Aut σ} {s : σ} (h : ∀ b, A.accept s b = s) (w : Key) : A.run s w = s := by
  induction w with
  | nil => rfl
  | cons b w ih => rw [run_cons, h, ih]

theorem union_run (A : Aut σ) (B : Aut τ) (s : σ × τ) (w : Key) :
    (autUnion A B).run s w = (A.run s.1 w, B.run s.2 w) :=
  Prod.ext (run_hom (B := A) Prod.fst (fun _ _ => rfl) s w)
    (run_hom (B := B) Prod.snd (fun _ _ => rfl) s w)

theorem inter_run (A : Aut σ) (B : Aut τ) (s : σ × τ) (w : Key) :
    (autInter A B).run s w = (A.run s.1 w, B.run s.2 w) :=
  Prod.ext (run_hom (B := A) Prod.fst (fun _ _ => rfl) s w)
    (run_hom (B := B) Prod.snd (fun _ _ => rfl) s w)

theorem compl_run (A : Aut σ) (s : σ) (w : Key) : (autCompl A).run s w = A.run s w :=
  run_hom (B := A) id (fun _ _ => rfl) s w

theorem C18_hints_union (A : Aut σ) (B : Aut τ) (hA : HintsSound A) (hB : HintsSound B) :
    HintsSound (autUnion A B) := by
  constructor
  · intro s h w
    have h' : (A.canMatch s.1 || B.canMatch s.2) = false := h
    rw [Bool.or_eq_false_iff] at h'
    rw [union_run]
    show (A.isMatch _ || B.isMatch _) = false
    rw [hA.1 _ h'.1 w, hB.1 _ h'.2 w]; rfl
  · intro s h w
    have h' : (A.willAlwaysMatch s.1 || B.willAlwaysMatch s.2) = true := h
    rw [union_run]
    show (A.isMatch _ || B.isMatch _) = true
    rw [Bool.or_eq_true] at h' ⊢
    cases h' with
    | inl h1 => exact Or.inl (hA.2 _ h1 w)
    | inr h2 => exact Or.inr (hB.2 _ h2 w)

theorem C18_hints_inter (A : Aut σ) (B : Aut τ) (hA : HintsSound A) (hB : HintsSound B) :
    HintsSound (autInter A B) := by
  constructor
  · intro s h w
    have h' : (A.canMatch s.1 && B.canMatch s.2) = false := h
    rw [inter_run]
    show (A.isMatch _ && B.isMatch _) = false
    rw [Bool.and_eq_false_iff] at h' ⊢
    cases h' with
    | inl h1 => exact Or.inl (hA.1 _ h1 w)
    | inr h2 => exact Or.inr (hB.1 _ h2 w)
  · intro s h w
    have h' : (A.willAlwaysMatch s.1 && B.willAlwaysMatch s.2) = true := h
    rw [Bool.and_eq_true] at h'
    rw [inter_run]
    show (A.isMatch _ && B.isMatch _) = true
    rw [hA.2 _ h'.1 w, hB.2 _ h'.2 w]; rfl

theorem C18_hints_compl (A : Aut σ) (hA : HintsSound A) : HintsSound (autCompl A) := by
  constructor
  · intro s h w
    have h' : (!A.willAlwaysMatch s) = false := h
    rw [compl_run]
    show (!A.isMatch _) = false
    rw [hA.2 s (by simpa using h') w]; rfl
  · intro s h w
    have h' : (!A.canMatch s) = true := h
    rw [compl_run]
    show (!A.isMatch _) = true
    rw [hA.1 s (by simpa using h') w]; rfl

theorem C18_hints_always : HintsSound autAlways :=
  ⟨fun _ h _ => (by cases h), fun _ _ _ => rfl⟩

/-- some prefix of `w` (possibly empty or all of it) is accepted from state `s` -/
def somePrefix (A : Aut σ) (s : σ) : Key → Bool
  | [] => A.isMatch s
  | b :: w => A.isMatch s || somePrefix A (A.accept s b) w

theorem sw_done_run (A : Aut σ) (w : Key) : (autStartsWith A).run .done w = .done :=
  run_fixed (fun _ => rfl) w

/-- entering `StartsWith` at inner state `x` (the start state, or after a byte) -/
theorem sw_enter (A : Aut σ) (x : σ) (w : Key) :
    (autStartsWith A).isMatch ((autStartsWith A).run
      (if A.isMatch x then SW.done else SW.running x) w) = somePrefix A x w := by
  induction w generalizing x with
  | nil => cases hm : A.isMatch x <;> simp [run_nil, somePrefix, hm] <;> rfl
  | cons b w ih =>
    cases hm : A.isMatch x with
    | true => rw [if_pos rfl, sw_done_run]; simp [somePrefix, hm]; rfl
    | false =>
      rw [if_neg Bool.false_ne_true, run_cons]
      simp only [somePrefix, hm, Bool.false_or]
      exact ih _

theorem sw_running (A : Aut σ) (s : σ) (w : Key) (h : A.isMatch s = false) :
    (autStartsWith A).isMatch ((autStartsWith A).run (.running s) w) = somePrefix A s w := by
  have := sw_enter A s w
  rwa [h, if_neg Bool.false_ne_true] at this

theorem somePrefix_false_of_nomatch (A : Aut σ) : ∀ (u : Key) (t : σ),
    (∀ v, A.isMatch (A.run t v) = false) → somePrefix A t u = false := by
  intro u
  induction u with
  | nil => intro t ht; exact ht []
  | cons d u ihu =>
    intro t ht
    have h0 : A.isMatch t = false := ht []
    simp only [somePrefix, h0, Bool.false_or]
    exact ihu _ (fun v => ht (d :: v))

theorem C18_hints_startswith (A : Aut σ) (hA : HintsSound A) : HintsSound (autStartsWith A) := by
  constructor
  · intro s h w
    cases s with
    | done => cases h
    | running i =>
      have hc : A.canMatch i = false := h
      have h0 : A.isMatch i = false := hA.1 i hc []
      rw [sw_running A i w h0]
      exact somePrefix_false_of_nomatch A w i (hA.1 i hc)
  · intro s h w
    cases s with
    | done => rw [sw_done_run]; rfl
    | running i => cases h

theorem str_dead (s : Key) (w : Key) : (autStr s).run none w = none :=
  run_fixed (fun _ => rfl) w

theorem drop_eq_cons_iff {α : Type} {s : List α} {p : Nat} {b : α} {w : List α} :
    s.drop p = b :: w ↔ s[p]? = some b ∧ s.drop (p + 1) = w := by
  rcases Nat.lt_or_ge p s.length with h | h
  · rw [List.drop_eq_getElem_cons h, List.getElem?_eq_getElem h, List.cons.injEq, Option.some.injEq]
  · simp [List.drop_eq_nil_of_le h, List.getElem?_eq_none h]

theorem str_run (s : Key) : ∀ (w : Key) (p : Nat), p ≤ s.length →
    ((autStr s).run (some p) w = some s.length ↔ s.drop p = w) := by
  intro w
  induction w with
  | nil =>
    intro p hp
    simp only [run_nil, Option.some.injEq, List.drop_eq_nil_iff]
    omega
  | cons b w ih =>
    intro p hp
    rw [run_cons, drop_eq_cons_iff]
    show (autStr s).run (if s[p]? == some b then some (p + 1) else none) w = some s.length ↔ _
    by_cases hb : s[p]? = some b
    · have hlt : p < s.length := (List.getElem?_eq_some_iff.1 hb).1
      simp [hb, ih (p + 1) hlt]
    · simp [hb, str_dead]

/-- Str accepts exactly its string -/
theorem C18_str (s w : Key) : (autStr s).accepts w = true ↔ w = s := by
  unfold Aut.accepts
  show ((autStr s).run (some 0) w == some s.length) = true ↔ _
  rw [beq_iff_eq, str_run s w 0 (Nat.zero_le _)]
  simp [eq_comm]

theorem C18_hints_str (s : Key) : HintsSound (autStr s) := by
  constructor
  · intro st h w
    cases st with
    | none => rw [str_dead]; rfl
    | some p => cases h
  · intro st h; cases h

/-- `pat` is a subsequence of `w` -/
def isSubseq : Key → Key → Bool
  | [], _ => true
  | _ :: _, [] => false
  | p :: ps, b :: w => if p = b then isSubseq ps w else isSubseq (p :: ps) w

theorem subseq_full (s : Key) (w : Key) : (autSubseq s).run s.length w = s.length :=
  run_fixed (fun _ => by simp [autSubseq]) w

theorem subseq_run (s : Key) : ∀ (w : Key) (st : Nat), st ≤ s.length →
    (((autSubseq s).run st w == s.length) = isSubseq (s.drop st) w) := by
  intro w
  induction w with
  | nil =>
    intro st hst
    simp only [run_nil]
    rcases Nat.lt_or_ge st s.length with h | h
    · rw [List.drop_eq_getElem_cons h]
      simp [isSubseq]; omega
    · have : st = s.length := by omega
      subst this; simp [isSubseq]
  | cons b w ih =>
    intro st hst
    simp only [run_cons]
    rcases Nat.lt_or_ge st s.length with h | h
    · have hne : (st == s.length) = false := by simp; omega
      show ((autSubseq s).run (if (st == s.length) = true then st else st + (if s[st]? == some b then 1 else 0)) w == s.length) = _
      rw [hne]
      simp only [Bool.false_eq_true, ite_false]
      rw [List.drop_eq_getElem_cons h, List.getElem?_eq_getElem h]
      by_cases hb : s[st] = b
      · simp only [hb, beq_self_eq_true, ite_true, isSubseq]
        rw [ih (st + 1) (by omega)]
      · have : (some s[st] == some b) = false := by simpa using hb
        simp only [this, Bool.false_eq_true, ite_false, Nat.add_zero, isSubseq, hb]
        rw [ih st hst, List.drop_eq_getElem_cons h]
    · have : st = s.length := by omega
      subst this
      rw [show (autSubseq s).accept s.length b = s.length from by
        show (if (s.length == s.length) = true then s.length else _) = _; simp]
      rw [subseq_full]; simp [isSubseq]

theorem C18_hints_subseq (s : Key) : HintsSound (autSubseq s) := by
  constructor
  · intro st h; cases h
  · intro st h w
    have : st = s.length := by
      have : (st == s.length) = true := h
      simpa using this
    subst this
    rw [subseq_full]
    show (s.length == s.length) = true
    simp

example : HintsSound (autUnion (autStr [97, 98]) (autCompl (autStartsWith (autSubseq [97])))) :=
  C18_hints_union _ _ (C18_hints_str _) (C18_hints_compl _ (C18_hints_startswith _ (C18_hints_subseq _)))

example : (autUnion (autStr [97, 98]) (autCompl (autSubseq [97]))).accepts [97, 98] = true := by decide

end Fst
