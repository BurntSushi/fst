import FstVerif.Proofs.BoundsBuild
import FstVerif.Proofs.BoundsStream
import FstVerif.Proofs.BoundsOps
/-
Model-level memory invariants behind C13 and C14: the sizes of the data structures the
Rust code holds are bounded independently of the number of keys. (The allocator itself,
`Vec` capacities etc. are measured by the harness, not modelled.)

C13, builder: `Proofs/BoundsBuild.lean` (`s.out`, the bytes already handed to the writer, is
excluded on purpose); C14 (a), streams: `Proofs/BoundsStream.lean`, and here `C14_stream_built`
for the store of a finished build; C14 (b), set operations: `Proofs/BoundsOps.lean`.
-/
namespace Fst
namespace Bounds

/-- builder output has no dead transitions (`build_tight`) -/
theorem live_of_tight {s : Store} {den : Nat → KV} (h : TightStore s den) : Live s den := by
  intro a n hm t ht e
  obtain ⟨k, hk⟩ := h a n hm t ht
  rw [e] at hk
  cases hk

/-- C14 (a) for the store of a finished build of a sorted map `kvs`, whatever the cache
geometry: every stream over it (any node access representing the store, any automaton, any
range) keeps its key buffer within the longest key of `kvs` and its stack within one frame
more. -/
theorem C14_stream_built (rows cols : Nat) (kvs : KV) (h : SortedKV kvs) :
    ∃ s s' root, insertAll (BState.new rows cols) kvs = .ok s ∧ s.finish = .ok (s', root) ∧
      ∀ {N σ : Type} (acc : NodeAccess N) (A : Aut σ) (min max : Bound) (st : SState N σ),
        Represents acc (storeOf s') → SReach acc A root min max st →
        st.inp.length ≤ maxLen kvs ∧ st.stack.length ≤ maxLen kvs + 1 := by
  obtain ⟨s, s', root, e1, e2, hg, hden, _, hroot⟩ := build_ok rows cols kvs h
  obtain ⟨t, t', root', f1, f2, htight⟩ := build_tight rows cols kvs h
  rw [e1] at f1
  cases f1
  rw [e2] at f2
  cases f2
  refine ⟨s, s', root, e1, e2, ?_⟩
  intro N σ acc A min max st hr hreach
  have := C14_stream_inp_bound hg hr hroot (live_of_tight htight) hreach
  rw [hden] at this
  exact this

example : SortedKV [([1, 2, 3], 7), ([1, 2, 4, 5], 1), ([9], 3)] := by simp [SortedKV, lexLt]

end Bounds
end Fst

section Axioms
open Fst Fst.Bounds
/-- info: 'Fst.Bounds.C13_footprint' depends on axioms: [propext, Classical.choice, Quot.sound] -/
#guard_msgs in
#print axioms C13_footprint
#print axioms C13_footprint_reachable
#print axioms C13_footprint_insertAll
#print axioms C13_footprint_addAll
#print axioms C14_step_growth
#print axioms C14_stream_depth
#print axioms C14_stream_depth_exact
#print axioms C14_stream_inp_key
#print axioms C14_stream_inp_bound
#print axioms C14_stream_built
#print axioms C14_ops_slots
#print axioms C14_ops_slots_diff
end Axioms
