import FstVerif.Proofs.BuildSide
/-
C13 (model level): the data the builder holds between two public calls is bounded by the
length of the longest key accepted so far and by the geometry of the node cache — there
is no term in the number of keys inserted or in the number of bytes emitted.

`footprint` counts everything `BState` holds EXCEPT `s.out` (and the scalar fields, one machine
word each: `count`, `lastAddr`, `len`, and `rows`, `cols`, `evictions` of the cache): `s.out` models
the bytes already handed to the writer, which the Rust builder does not keep.

`footprint_le` is the bound by the length of the last accepted key; `C13_footprint` states it with
the longest key and the facts it rests on (`regShape_reachable`: the cache keeps its geometry,
lifted to the public calls by `regShape_einv`).
-/
namespace Fst
namespace Bounds

theorem sum_map_le {α : Type} (f : α → Nat) (k : Nat) : ∀ (l : List α), (∀ x ∈ l, f x ≤ k) →
    (l.map f).sum ≤ l.length * k
  | [], _ => by simp
  | a :: l, h => by
    have h1 := h a (by simp)
    have h2 := sum_map_le f k l (fun x hx => h x (List.mem_cons_of_mem _ hx))
    simp only [List.map_cons, List.sum_cons, List.length_cons, Nat.add_mul, Nat.one_mul]
    omega

theorem foldl_add_eq {α : Type} (f : α → Nat) : ∀ (l : List α) (acc : Nat),
    l.foldl (fun a c => a + f c) acc = acc + (l.map f).sum
  | [], acc => by simp
  | a :: l, acc => by
    simp only [List.foldl_cons, List.map_cons, List.sum_cons, foldl_add_eq f l]
    omega

def bucketTrans (b : List Cell) : Nat := (b.map fun c => c.node.trans.length).sum

theorem registry_footprint_eq (r : Registry) :
    r.footprint = (r.table.toList.map bucketTrans).sum := by
  unfold Registry.footprint
  rw [← Array.foldl_toList]
  have : (fun (acc : Nat) (b : List Cell) => b.foldl (fun a c => a + c.node.trans.length) acc)
      = fun acc b => acc + bucketTrans b := by
    funext acc b
    exact foldl_add_eq (fun c : Cell => c.node.trans.length) b acc
  rw [this, foldl_add_eq]
  simp

/-- a bucket of exactly `cols` cells, each holding a node of at most 256 transitions -/
def BucketOK (cols : Nat) (b : List Cell) : Prop :=
  b.length = cols ∧ ∀ c ∈ b, c.node.trans.length ≤ 256

/-- the cache has the geometry it was created with and holds only small nodes -/
structure RegShape (rows cols : Nat) (r : Registry) : Prop where
  rows_eq : r.rows = rows
  cols_eq : r.cols = cols
  size_eq : r.table.size = rows
  buckets : ∀ b ∈ r.table.toList, BucketOK cols b

theorem RegShape.of_buckets {rows cols : Nat} {r : Registry} (h1 : r.rows = rows) (h2 : r.cols = cols)
    (h : Buckets (BucketOK cols) r) : RegShape rows cols r := ⟨h1, h2, h1 ▸ h.size, h.all⟩

theorem regShape_new (rows cols : Nat) : RegShape rows cols (Registry.new rows cols) :=
  .of_buckets rfl rfl (Buckets.new rows ⟨List.length_replicate .., fun c hc => by
    rw [List.eq_of_mem_replicate hc]; simp [Cell.none, BNode.empty]⟩)

/-- `Builder::compile` keeps the cache geometry and the cached nodes small (no hypothesis on the node: an oversized
node makes `compile` fail before it could stay cached) -/
theorem compile_shape {rows cols : Nat} {s s' : BState} {n : BNode} {a : Nat}
    (h : s.compile n = .ok (s', a)) (hr : RegShape rows cols s.reg) :
    RegShape rows cols s'.reg := by
  have hb : Buckets (BucketOK cols) s.reg := ⟨hr.size_eq.trans hr.rows_eq.symm, hr.buckets⟩
  have hit : ∀ (l₁ : List Cell) c l₂, BucketOK cols (l₁ ++ c :: l₂) → BucketOK cols (c :: (l₁ ++ l₂)) :=
    fun _ _ _ ⟨hl, hs⟩ => ⟨by rw [← hl]; exact List.perm_middle.length_eq.symm,
      fun x hx => hs x (List.perm_middle.mem_iff.mpr hx)⟩
  rcases compile_cases h with ⟨_, rfl, _⟩ | ⟨_, reg', hre, rfl⟩ | ⟨_, reg', e, cs, hre, _, hcs, _, rfl⟩
  · exact hr
  · -- a hit: the address argument of `after` is not read
    obtain ⟨f1, f2, _⟩ := after_fields hre 0
    exact .of_buckets (f1.trans hr.rows_eq) (f2.trans hr.cols_eq) (hb.lookup hre 0 hit fun _ e => nomatch e)
  · obtain ⟨f1, f2, _⟩ := after_fields hre a
    refine .of_buckets (f1.trans hr.rows_eq) (f2.trans hr.cols_eq) (hb.lookup hre a hit ?_)
    -- the node that enters has been written, so it is small
    intro _ _ l c ⟨hl, hs⟩
    refine ⟨by simpa using hl, fun x hx => ?_⟩
    rcases List.mem_cons.mp hx with rfl | hx
    · exact compileNodeC_some_le hcs
    · exact hs x (List.mem_append_left _ hx)

theorem regShape_einv (rows cols : Nat) : MinP.EInv fun s => RegShape rows cols s.reg where
  frame := by intro s h s' _ h2 _ _; rw [h2]; exact h
  compile := fun h hs => compile_shape h hs

/-- `s` is reachable from `BState.new rows cols`; `ks` are the keys accepted so far,
newest first (a repeated `add` of the same key is listed each time) -/
inductive ReachableK (rows cols : Nat) : List Key → BState → Prop
  | new : ReachableK rows cols [] (BState.new rows cols)
  | insert {ks : List Key} {s s' : BState} (k : Key) (v : Nat) :
      ReachableK rows cols ks s → s.insert k v = .ok s' → ReachableK rows cols (k :: ks) s'
  | add {ks : List Key} {s s' : BState} (k : Key) :
      ReachableK rows cols ks s → s.add k = .ok s' → ReachableK rows cols (k :: ks) s'

theorem reachableK_reachable {rows cols : Nat} {ks : List Key} {s : BState}
    (h : ReachableK rows cols ks s) : Reachable s := by
  induction h with
  | new => exact .new rows cols
  | insert k v _ hi ih => exact .insert k v ih hi
  | add k _ ha ih => exact .add k ih ha

theorem reachable_reachableK {s : BState} (h : Reachable s) :
    ∃ rows cols ks, ReachableK rows cols ks s := by
  induction h with
  | new rows cols => exact ⟨rows, cols, [], .new⟩
  | insert k v _ hi ih => obtain ⟨r, c, ks, h⟩ := ih; exact ⟨r, c, k :: ks, .insert k v h hi⟩
  | add k _ ha ih => obtain ⟨r, c, ks, h⟩ := ih; exact ⟨r, c, k :: ks, .add k h ha⟩

def maxKeyLen : List Key → Nat
  | [] => 0
  | k :: ks => max k.length (maxKeyLen ks)

theorem le_maxKeyLen : ∀ {ks : List Key} {k : Key}, k ∈ ks → k.length ≤ maxKeyLen ks
  | k' :: ks, k, h => by
    simp only [List.mem_cons] at h
    simp only [maxKeyLen]
    rcases h with e | e
    · subst e; exact Nat.le_max_left ..
    · exact Nat.le_trans (le_maxKeyLen e) (Nat.le_max_right ..)

/-- the cache keeps `rows` buckets of exactly `cols` cells, every cached node is small;
`s.last` is the newest accepted key -/
theorem regShape_reachable {rows cols : Nat} {ks : List Key} {s : BState}
    (h : ReachableK rows cols ks s) : RegShape rows cols s.reg ∧ s.last = ks.head? := by
  induction h with
  | new => exact ⟨regShape_new rows cols, rfl⟩
  | insert k v hk hi ih =>
    obtain ⟨acc, hinv⟩ := reachable_inv (reachableK_reachable hk)
    exact ⟨(regShape_einv rows cols).insert hi ih.1, (insert_inv hinv hi).last_snoc⟩
  | add k hk ha ih =>
    obtain ⟨acc, hinv⟩ := reachable_inv (reachableK_reachable hk)
    exact ⟨(regShape_einv rows cols).add ha ih.1, (add_step PopMotive.trivial hinv ha).last_eq⟩

theorem stack_length_reachable {s : BState} (h : Reachable s) :
    s.stack.length = (s.last.getD []).length + 1 := by
  obtain ⟨acc, hinv⟩ := reachable_inv h
  have := pathKey_length hinv.core.wf
  rw [hinv.path] at this
  omega

theorem stack_trans_reachable {s : BState} (h : Reachable s) :
    ∀ u ∈ s.stack, u.node.trans.length ≤ 256 := by
  obtain ⟨acc, hinv⟩ := reachable_inv h
  exact fun u hu => sortedInputs_length (hinv.core.shape u hu).1

/-- everything the builder holds between two calls, in words: the unfinished stack (one
header per node + its frozen transitions), the cache (one header per cell + the cached
transitions), the copy of the last key. `s.out` is NOT counted: it stands for the bytes
already handed to the writer. -/
def footprint (s : BState) : Nat :=
  s.stack.length + (s.stack.map fun u => u.node.trans.length).sum
    + s.reg.table.size * s.reg.cols + s.reg.footprint + (s.last.map List.length).getD 0

theorem registry_footprint_le {rows cols : Nat} {r : Registry} (h : RegShape rows cols r) :
    r.footprint ≤ rows * cols * 256 := by
  rw [registry_footprint_eq]
  have h1 : ∀ b ∈ r.table.toList, bucketTrans b ≤ cols * 256 := by
    intro b hb
    obtain ⟨hl, hc⟩ := h.buckets b hb
    have := sum_map_le (fun c : Cell => c.node.trans.length) 256 b hc
    rw [hl] at this
    exact this
  have h2 := sum_map_le bucketTrans (cols * 256) r.table.toList h1
  rw [Array.length_toList, h.size_eq, ← Nat.mul_assoc] at h2
  exact h2

/-- the footprint is bounded by the length of the LAST accepted key and the cache geometry;
257 = one header + at most 256 transitions (sorted byte inputs), per stack node and per cache cell -/
theorem footprint_le {rows cols : Nat} {s : BState} (hr : Reachable s)
    (hreg : RegShape rows cols s.reg) :
    footprint s ≤ ((s.last.getD []).length + 1) * 257 + rows * cols * 257 + (s.last.getD []).length := by
  have hlen := stack_length_reachable hr
  have hL' : (s.last.map List.length).getD 0 = (s.last.getD []).length := by
    cases s.last <;> rfl
  have hsum := sum_map_le (fun u : UNode => u.node.trans.length) 256 s.stack (stack_trans_reachable hr)
  have hfp := registry_footprint_le hreg
  unfold footprint
  rw [hreg.size_eq, hreg.cols_eq, hL', hlen] at *
  have e3 : rows * cols * 257 = rows * cols * 256 + rows * cols := Nat.mul_succ _ 256
  generalize rows * cols = rc at *
  generalize (s.last.getD []).length = L at *
  omega

theorem bound_mono {m L rc : Nat} (h : m ≤ L) :
    (m + 1) * 257 + rc * 257 + m ≤ (L + 1) * 257 + rc * 257 + L := by omega

/-- the last key is one of the accepted keys -/
theorem last_le_maxKeyLen {rows cols : Nat} {ks : List Key} {s : BState}
    (h : ReachableK rows cols ks s) : (s.last.getD []).length ≤ maxKeyLen ks := by
  rw [(regShape_reachable h).2]
  cases ks with
  | nil => exact Nat.le_refl 0
  | cons k ks => exact Nat.le_max_left ..

theorem footprint_le_max {rows cols : Nat} {ks : List Key} {s : BState}
    (h : ReachableK rows cols ks s) :
    footprint s ≤ (maxKeyLen ks + 1) * 257 + rows * cols * 257 + maxKeyLen ks :=
  Nat.le_trans (footprint_le (reachableK_reachable h) (regShape_reachable h).1)
    (bound_mono (last_le_maxKeyLen h))

/-- C13: the builder footprint is bounded by the longest accepted key and the cache
geometry; no term in the number of keys or in the bytes emitted. -/
theorem C13_footprint {rows cols : Nat} {ks : List Key} {s : BState}
    (h : ReachableK rows cols ks s) :
    -- the unfinished stack
    s.stack.length = (s.last.getD []).length + 1 ∧ s.stack.length ≤ maxKeyLen ks + 1 ∧
    (∀ u ∈ s.stack, u.node.trans.length ≤ 256) ∧
    -- the cache
    s.reg.table.size = rows ∧ (∀ b ∈ s.reg.table.toList, b.length = cols) ∧
    (∀ b ∈ s.reg.table.toList, ∀ c ∈ b, c.node.trans.length ≤ 256) ∧
    -- the total
    footprint s ≤ (maxKeyLen ks + 1) * 257 + rows * cols * 257 + maxKeyLen ks := by
  have hr := reachableK_reachable h
  have hreg := (regShape_reachable h).1
  have hlen := stack_length_reachable hr
  exact ⟨hlen, hlen ▸ Nat.succ_le_succ (last_le_maxKeyLen h), stack_trans_reachable hr, hreg.size_eq,
    fun b hb => (hreg.buckets b hb).1, fun b hb => (hreg.buckets b hb).2, footprint_le_max h⟩

theorem C13_footprint_reachable {s : BState} (h : Reachable s) :
    ∃ rows cols ks, ReachableK rows cols ks s ∧
      footprint s ≤ (maxKeyLen ks + 1) * 257 + rows * cols * 257 + maxKeyLen ks := by
  obtain ⟨rows, cols, ks, hk⟩ := reachable_reachableK h
  exact ⟨rows, cols, ks, hk, footprint_le_max hk⟩

theorem maxKeyLen_le {L : Nat} : ∀ {ks : List Key}, (∀ k ∈ ks, k.length ≤ L) → maxKeyLen ks ≤ L
  | [], _ => Nat.zero_le _
  | k :: ks, h => by
    have h1 := h k (by simp)
    have h2 := maxKeyLen_le (ks := ks) (fun x hx => h x (List.mem_cons_of_mem _ hx))
    simp only [maxKeyLen]; omega

theorem reachableK_insertAll {rows cols : Nat} : ∀ (kvs : KV) {ks : List Key} {s s' : BState},
    ReachableK rows cols ks s → insertAll s kvs = .ok s' →
    ReachableK rows cols ((kvs.map (·.1)).reverse ++ ks) s'
  | [], ks, s, s', h, e => by cases e; exact h
  | kv :: rest, ks, s, s', h, e => by
    obtain ⟨s1, e1, e2⟩ := insertAll_cons_ok.mp e
    simpa using reachableK_insertAll rest (ReachableK.insert kv.1 kv.2 h e1) e2

theorem reachableK_addAll {rows cols : Nat} : ∀ (keys : List Key) {ks : List Key} {s s' : BState},
    ReachableK rows cols ks s → addAll s keys = .ok s' →
    ReachableK rows cols (keys.reverse ++ ks) s'
  | [], ks, s, s', h, e => by cases e; exact h
  | k :: rest, ks, s, s', h, e => by
    obtain ⟨s1, e1, e2⟩ := addAll_cons_ok.mp e
    simpa using reachableK_addAll rest (ReachableK.add k h e1) e2

/-- C13 for a whole map build: `L` bounds the key lengths; the number of keys does not occur -/
theorem C13_footprint_insertAll {rows cols L : Nat} {kvs : KV} {s : BState}
    (h : insertAll (BState.new rows cols) kvs = .ok s) (hL : ∀ kv ∈ kvs, kv.1.length ≤ L) :
    footprint s ≤ (L + 1) * 257 + rows * cols * 257 + L := by
  have hk := reachableK_insertAll kvs .new h
  have hb := footprint_le_max hk
  have hm : maxKeyLen ((kvs.map (·.1)).reverse ++ []) ≤ L := by
    apply maxKeyLen_le
    intro k hk
    simp only [List.append_nil, List.mem_reverse, List.mem_map] at hk
    obtain ⟨kv, hkv, rfl⟩ := hk
    exact hL kv hkv
  exact Nat.le_trans hb (bound_mono hm)

theorem C13_footprint_addAll {rows cols L : Nat} {keys : List Key} {s : BState}
    (h : addAll (BState.new rows cols) keys = .ok s) (hL : ∀ k ∈ keys, k.length ≤ L) :
    footprint s ≤ (L + 1) * 257 + rows * cols * 257 + L := by
  have hk := reachableK_addAll keys .new h
  have hb := footprint_le_max hk
  have hm : maxKeyLen (keys.reverse ++ []) ≤ L := by
    apply maxKeyLen_le
    intro k hk
    simp only [List.append_nil, List.mem_reverse] at hk
    exact hL k hk
  exact Nat.le_trans hb (bound_mono hm)

def exKeys : KV := [([1, 2, 3], 7), ([1, 2, 4, 5], 1), ([9], 3)]

/-- the hypotheses of `C13_footprint` are satisfiable by a non-trivial state -/
example : ∃ s, insertAll (BState.new 2 2) exKeys = .ok s ∧
    ReachableK 2 2 [[9], [1, 2, 4, 5], [1, 2, 3]] s ∧ footprint s ≤ (4 + 1) * 257 + 2 * 2 * 257 + 4 := by
  obtain ⟨s, _, _, e, _⟩ := build_ok 2 2 exKeys (by simp [exKeys, SortedKV, lexLt])
  have hk := reachableK_insertAll exKeys .new e
  have hf := footprint_le_max hk
  exact ⟨s, e, hk, hf⟩

/-- measured on the model: footprint, stack depth, cached transitions, and the size of the
part that is NOT counted (`out`, which does grow with the number of keys) -/
def exMeasure (rows cols : Nat) (kvs : KV) : Option (Nat × Nat × Nat × Nat) :=
  match insertAll (BState.new rows cols) kvs with
  | .ok s => some (footprint s, s.stack.length, s.reg.footprint, s.out.length)
  | .error _ => none

/-- info: some (12, 2, 4, 3) -/
#guard_msgs in
#eval exMeasure 2 2 exKeys

end Bounds
end Fst
