import FstVerif.Proofs.Ops
/-
C14 (b), model level: a set operation over `n` streams holds at most `n` heap slots — at
most one per stream, each slot being an item of its own stream — and exactly `n` readers,
each holding a suffix of its stream, in every state reachable by `next` calls, for every
`pop` obeying `PopSpec`; nothing grows with the number of keys already returned
(`C14_ops_slots`, `C14_ops_slots_diff`).
-/
namespace Fst
namespace Bounds

open Fst.Ops

/-- `h` is a heap over `streams`: one reader per stream holding a suffix of it, at most one
slot per stream, each slot an item of its stream; streams in `U` hold no slot -/
structure HInv (streams : List KV) (h : SHeap) (U : Nat → Prop) : Prop where
  len : h.rdrs.length = streams.length
  nodup : (h.heap.map (·.idx)).Nodup
  slot : ∀ s ∈ h.heap, ¬ U s.idx ∧ s.idx < streams.length ∧
    (s.input, s.output) ∈ nth streams s.idx
  suffix : ∀ i, nth h.rdrs i <:+ nth streams i

theorem HInv.mono {streams h U U'} (r : HInv streams h U) (h1 : ∀ i, U' i → U i) :
    HInv streams h U' :=
  ⟨r.len, r.nodup, fun s hs => ⟨fun hu => (r.slot s hs).1 (h1 _ hu), (r.slot s hs).2⟩, r.suffix⟩

theorem HInv.heap_le {streams h U} (r : HInv streams h U) : h.heap.length ≤ streams.length := by
  have h1 : (h.heap.map (·.idx)) ⊆ List.range streams.length := by
    intro i hi
    obtain ⟨s, hs, rfl⟩ := List.mem_map.1 hi
    exact List.mem_range.2 (r.slot s hs).2.1
  have := r.nodup.length_le_of_subset h1
  simpa using this

theorem HInv.refill {streams h U} (r : HInv streams h U) (i : Nat) (hU : U i) :
    HInv streams (h.refill i) (fun j => U j ∧ j ≠ i) := by
  have hno : ∀ s ∈ h.heap, s.idx ≠ i := fun s hs e => (r.slot s hs).1 (e ▸ hU)
  rcases refill_cases h i with ⟨e, hn⟩ | ⟨k, v, t, hn, hi, e⟩
  · rw [e]; exact r.mono (fun j hj => hj.1)
  · rw [e]
    have hsuf := r.suffix i
    rw [hn] at hsuf
    refine ⟨by simp [r.len], ?_, ?_, ?_⟩
    · simp only [List.map_cons, List.nodup_cons, List.mem_map, not_exists, not_and]
      exact ⟨fun s hs => hno s hs, r.nodup⟩
    · intro s hs
      rcases List.mem_cons.1 hs with rfl | hs
      · refine ⟨fun hh => hh.2 rfl, by rw [← r.len]; exact hi, ?_⟩
        exact hsuf.subset (by simp)
      · obtain ⟨a, b⟩ := r.slot s hs
        exact ⟨fun hh => a hh.1, b⟩
    · intro j
      simp only [nth_set _ _ _ _ hi]
      split
      · rename_i e; subst e
        exact (List.suffix_cons _ _).trans hsuf
      · exact r.suffix j

theorem HInv.pop {pop streams h U} (hp : PopSpec pop) (r : HInv streams h U) {s rest}
    (e : pop h.heap = some (s, rest)) :
    HInv streams ⟨h.rdrs, rest⟩ (fun j => U j ∨ j = s.idx) ∧ ¬ U s.idx ∧
      s.idx < streams.length ∧ (s.input, s.output) ∈ nth streams s.idx := by
  obtain ⟨hperm, _⟩ := hp.2 _ _ _ e
  have hs : s ∈ h.heap := hperm.subset (by simp)
  have hnd : ((s :: rest).map (·.idx)).Nodup := (hperm.map _).nodup_iff.2 r.nodup
  simp only [List.map_cons, List.nodup_cons, List.mem_map, not_exists, not_and] at hnd
  refine ⟨⟨r.len, hnd.2, ?_, r.suffix⟩, (r.slot s hs).1, (r.slot s hs).2⟩
  intro x hx
  have hx' : x ∈ h.heap := hperm.subset (List.mem_cons_of_mem _ hx)
  obtain ⟨a, b⟩ := r.slot x hx'
  exact ⟨fun hh => hh.elim a (hnd.1 x hx), b⟩

/-- pop a slot and refill its stream: the set of slot-less streams is unchanged -/
theorem HInv.pop_refill {pop streams h U} (hp : PopSpec pop) (r : HInv streams h U) {s rest}
    (e : pop h.heap = some (s, rest)) :
    HInv streams ((⟨h.rdrs, rest⟩ : SHeap).refill s.idx) U := by
  obtain ⟨r1, hnu, _⟩ := r.pop hp e
  exact (r1.refill s.idx (Or.inr rfl)).mono
    (fun j hj => ⟨Or.inl hj, fun e => hnu (e ▸ hj)⟩)

theorem hinv_new (streams : List KV) : HInv streams (SHeap.new streams) (fun _ => False) :=
  (new_induct streams (P := fun m h => HInv streams h (fun i => m ≤ i))
    ⟨rfl, by simp, by simp, fun i => List.suffix_refl _⟩
    (fun m h ih => (ih.refill m (Nat.le_refl m)).mono (fun i hi => ⟨by omega, by omega⟩))).mono
    (fun _ h => h.elim)

theorem drainWhile_hinv {pop} (hp : PopSpec pop) {streams : List KV} {U : Nat → Prop}
    (c : Slot → Bool) : ∀ (fuel : Nat) (h : SHeap), HInv streams h U →
      HInv streams (drainWhile pop c fuel h).1 U
  | 0, h, r => r
  | fuel + 1, h, r => by
    simp only [drainWhile]
    split
    · rename_i s rest e
      split
      · exact drainWhile_hinv hp c fuel _ (r.pop_refill hp e)
      · exact r
    · exact r

/-- the invariant of an `OpState`: the heap is full except for the stream whose slot is
lent out as `cur_slot`, and that slot is an item of its stream too -/
structure OpInv (streams : List KV) (s : OpState) : Prop where
  heap : HInv streams s.heap (lentOf s.curSlot)
  cur : ∀ sl, s.curSlot = some sl → sl.idx < streams.length ∧
    (sl.input, sl.output) ∈ nth streams sl.idx

theorem opInv_new (streams : List KV) : OpInv streams (OpState.new streams) :=
  ⟨(hinv_new streams).mono (by rintro i ⟨sl, h, _⟩; cases h), fun sl h => by cases h⟩

theorem refillCur_hinv {streams : List KV} {s : OpState} (r : OpInv streams s) :
    HInv streams s.refillCur (fun _ => False) := by
  unfold OpState.refillCur
  cases hc : s.curSlot with
  | none =>
    exact r.heap.mono (fun _ h => h.elim)
  | some sl =>
    simp only
    exact (r.heap.refill sl.idx ⟨sl, hc, rfl⟩).mono (fun _ h => h.elim)

/-- what one round (pop the minimum, drain its equals) leaves -/
theorem round_hinv {pop} (hp : PopSpec pop) {streams : List KV} {h : SHeap} {slot : Slot} {rest}
    (r : HInv streams h (fun _ => False)) (e : pop h.heap = some (slot, rest)) (fuel : Nat)
    (outs : List IndexedValue) :
    OpInv streams ⟨(drainEqual pop slot.input fuel ⟨h.rdrs, rest⟩ outs).1, some slot⟩ := by
  obtain ⟨r1, _, h2, h3⟩ := r.pop hp e
  rw [drainEqual_eq]
  refine ⟨(drainWhile_hinv hp _ fuel _ r1).mono ?_, ?_⟩
  · rintro i ⟨sl, hsl, rfl⟩
    cases hsl
    exact Or.inr rfl
  · intro sl hsl
    cases hsl
    exact ⟨h2, h3⟩

theorem filterLoop_inv {pop} (hp : PopSpec pop) (keep : Nat → Nat → Bool) {streams : List KV} :
    ∀ (fuel : Nat) (h : SHeap) (item : Key × List IndexedValue) (s' : OpState),
      HInv streams h (fun _ => False) → filterLoop pop keep fuel h = some (item, s') →
      OpInv streams s' := by
  intro fuel
  induction fuel with
  | zero => exact fun _ _ _ _ e => nomatch e
  | succ fuel ih =>
    intro h item s' r e
    simp only [filterLoop, SHeap.pop] at e
    cases hpop : pop h.heap with
    | none => rw [hpop] at e; cases e
    | some p =>
      rw [hpop] at e
      have hround := round_hinv hp r hpop (h.rdrs.length + 1) [p.1.iv]
      simp only [Option.map_some] at e
      split at e
      · simp only [Option.some.injEq, Prod.mk.injEq] at e
        rw [← e.2]
        exact hround
      · refine ih _ item s' ?_ e
        exact (hround.heap.refill p.1.idx ⟨p.1, rfl, rfl⟩).mono (fun _ h => h.elim)

/-- states of a `Union` / `Intersection` / `SymmetricDifference` between `next` calls (the three
`next` functions may be mixed on one state, which no Rust object can do: the three share the
state type here) -/
inductive OpReach (pop : PopFn) (streams : List KV) : OpState → Prop
  | new : OpReach pop streams (OpState.new streams)
  | union {s s' : OpState} {item : Key × List IndexedValue} :
      OpReach pop streams s → unionNext pop s = some (item, s') → OpReach pop streams s'
  | intersection {s s' : OpState} {item : Key × List IndexedValue} :
      OpReach pop streams s → intersectionNext pop s = some (item, s') → OpReach pop streams s'
  | symDiff {s s' : OpState} {item : Key × List IndexedValue} :
      OpReach pop streams s → symDiffNext pop s = some (item, s') → OpReach pop streams s'

theorem opReach_inv {pop} (hp : PopSpec pop) {streams : List KV} {s : OpState}
    (h : OpReach pop streams s) : OpInv streams s := by
  induction h with
  | new => exact opInv_new streams
  | union _ e ih =>
    rw [unionNext_eq] at e
    exact filterLoop_inv hp _ _ _ _ _ (refillCur_hinv ih) e
  | intersection _ e ih => exact filterLoop_inv hp _ _ _ _ _ (refillCur_hinv ih) e
  | symDiff _ e ih => exact filterLoop_inv hp _ _ _ _ _ (refillCur_hinv ih) e

/-- C14 (b): in every reachable state of a union / intersection / symmetric difference over
`streams`, for every `pop` obeying `PopSpec`: at most one heap slot per stream, one reader
per stream, every slot (and the lent `cur_slot`) is an item of its own stream, no two slots
belong to the same stream, and every reader holds a suffix of its stream. -/
theorem C14_ops_slots {pop : PopFn} (hp : PopSpec pop) {streams : List KV} {s : OpState}
    (h : OpReach pop streams s) :
    s.heap.heap.length ≤ streams.length ∧
    s.heap.rdrs.length = streams.length ∧
    (∀ sl ∈ s.heap.heap, sl.idx < streams.length ∧ (sl.input, sl.output) ∈ nth streams sl.idx) ∧
    (∀ sl, s.curSlot = some sl →
      sl.idx < streams.length ∧ (sl.input, sl.output) ∈ nth streams sl.idx ∧
      ∀ x ∈ s.heap.heap, x.idx ≠ sl.idx) ∧
    (s.heap.heap.map (·.idx)).Nodup ∧
    (∀ i, nth s.heap.rdrs i <:+ nth streams i) := by
  have r := opReach_inv hp h
  refine ⟨r.heap.heap_le, r.heap.len, fun sl hsl => (r.heap.slot sl hsl).2, ?_, r.heap.nodup,
    r.heap.suffix⟩
  intro sl hsl
  refine ⟨(r.cur sl hsl).1, (r.cur sl hsl).2, ?_⟩
  intro x hx e
  exact (r.heap.slot x hx).1 ⟨sl, hsl, e⟩

structure DiffInv (first : KV) (rest : List KV) (d : DiffState) : Prop where
  heap : HInv (swapRemoved rest) d.heap (fun _ => False)
  set : d.set <:+ first

theorem diffNew_eq (first : KV) (rest : List KV) :
    DiffState.new (first :: rest) = some ⟨first, SHeap.new (swapRemoved rest)⟩ := rfl

theorem differenceNext_inv {pop} (hp : PopSpec pop) {first : KV} {rest : List KV} :
    ∀ (fuel : Nat) (d d' : DiffState) (item : Key × List IndexedValue), DiffInv first rest d →
      differenceNext pop fuel d = some (item, d') → DiffInv first rest d' := by
  intro fuel
  induction fuel with
  | zero => exact fun _ _ _ _ e => nomatch e
  | succ fuel ih =>
    intro d d' item r e
    simp only [differenceNext] at e
    split at e
    · cases e
    · rename_i k v tl hset
      have hsuf : tl <:+ first := by
        have := r.set
        rw [hset] at this
        exact (List.suffix_cons _ _).trans this
      have hh : HInv (swapRemoved rest) (drainLe pop k (totalItems d.heap + 1) d.heap true).1
          (fun _ => False) := by
        rw [drainLe_eq]; exact drainWhile_hinv hp _ _ _ r.heap
      split at e
      · simp only [Option.some.injEq, Prod.mk.injEq] at e
        rw [← e.2]
        exact ⟨hh, hsuf⟩
      · exact ih _ d' item ⟨hh, hsuf⟩ e

/-- states of a `Difference` between `next` calls (any fuel for the inner loop) -/
inductive DiffReach (pop : PopFn) (streams : List KV) : DiffState → Prop
  | new {d : DiffState} : DiffState.new streams = some d → DiffReach pop streams d
  | next {d d' : DiffState} {item : Key × List IndexedValue} (fuel : Nat) :
      DiffReach pop streams d → differenceNext pop fuel d = some (item, d') →
      DiffReach pop streams d'

/-- C14 (b) for `Difference` over `first :: rest`: the heap runs over the other streams (in
the order `swap_remove(0)` leaves them, `swapRemoved rest`): at most one slot for each,
`streams.length - 1` readers, every slot an item of its stream, readers hold suffixes, and
the subtrahend-free first stream is consumed front to back. -/
theorem C14_ops_slots_diff {pop : PopFn} (hp : PopSpec pop) {first : KV} {rest : List KV}
    {d : DiffState} (h : DiffReach pop (first :: rest) d) :
    d.heap.heap.length ≤ (first :: rest).length - 1 ∧
    d.heap.rdrs.length = (first :: rest).length - 1 ∧
    (∀ sl ∈ d.heap.heap, sl.idx < rest.length ∧
      (sl.input, sl.output) ∈ nth (swapRemoved rest) sl.idx) ∧
    (d.heap.heap.map (·.idx)).Nodup ∧
    (∀ i, nth d.heap.rdrs i <:+ nth (swapRemoved rest) i) ∧
    d.set <:+ first := by
  have r : DiffInv first rest d := by
    induction h with
    | new e =>
      rw [diffNew_eq] at e
      cases e
      exact ⟨hinv_new _, List.suffix_refl _⟩
    | next fuel _ e ih => exact differenceNext_inv hp fuel _ _ _ ih e
  have hl := (swapRemoved_perm rest).length_eq
  refine ⟨?_, ?_, ?_, r.heap.nodup, r.heap.suffix, r.set⟩
  · rw [List.length_cons, Nat.add_sub_cancel, ← hl]
    exact r.heap.heap_le
  · rw [List.length_cons, Nat.add_sub_cancel, ← hl]
    exact r.heap.len
  · intro sl hsl
    obtain ⟨_, a, b⟩ := r.heap.slot sl hsl
    exact ⟨hl ▸ a, b⟩

/-- `Difference` over no stream at all does not exist (`swap_remove(0)` panics) -/
theorem diffReach_nil {pop : PopFn} {d : DiffState} : ¬ DiffReach pop [] d := by
  intro h
  induction h with
  | new e => cases e
  | next _ _ _ ih => exact ih

/-- the states after `k` successful `next` calls of a union -/
def unionSteps (streams : List KV) : Nat → Option OpState
  | 0 => some (OpState.new streams)
  | k + 1 => (unionSteps streams k).bind fun s => (unionNext popMin s).map (·.2)

theorem unionSteps_reach (streams : List KV) : ∀ k s, unionSteps streams k = some s →
    OpReach popMin streams s
  | 0, s, h => by cases h; exact .new
  | k + 1, s, h => by
    simp only [unionSteps] at h
    cases hk : unionSteps streams k with
    | none => rw [hk] at h; cases h
    | some s0 =>
      rw [hk] at h
      simp only [Option.bind_some] at h
      cases hn : unionNext popMin s0 with
      | none => rw [hn] at h; cases h
      | some x =>
        obtain ⟨item, s1⟩ := x
        rw [hn] at h
        cases h
        exact .union (unionSteps_reach streams k s0 hk) hn

/-- heap sizes along a union of the example streams of `Proofs/Ops.lean` (one of the four is empty) -/
def heapSizes (streams : List KV) (k : Nat) : List Nat :=
  (List.range k).filterMap fun i => (unionSteps streams i).map fun s => s.heap.heap.length

/-- info: [3, 2, 2, 2, 2, 1, 0] -/
#guard_msgs in
#eval heapSizes exStreams 8

example : ∃ s, unionSteps exStreams 2 = some s ∧ OpReach popMin exStreams s ∧
    s.heap.heap.length ≤ exStreams.length ∧ s.heap.rdrs.length = exStreams.length := by
  have hs : (unionSteps exStreams 2).isSome = true := by decide
  obtain ⟨s, hst⟩ := Option.isSome_iff_exists.mp hs
  have hr := unionSteps_reach _ _ _ hst
  have hb := C14_ops_slots popSpec_popMin hr
  exact ⟨s, hst, hr, hb.1, hb.2.1⟩

example : ∃ d, DiffReach popMin exStreams d ∧ d.heap.heap.length ≤ exStreams.length - 1 := by
  have hs : (DiffState.new exStreams).isSome = true := by decide
  obtain ⟨d, hd⟩ := Option.isSome_iff_exists.mp hs
  have hr : DiffReach popMin exStreams d := .new hd
  refine ⟨d, hr, ?_⟩
  have : exStreams = exStreams.head! :: exStreams.tail := by decide
  rw [this] at hr
  have := (C14_ops_slots_diff popSpec_popMin hr).1
  simpa using this

end Bounds
end Fst
