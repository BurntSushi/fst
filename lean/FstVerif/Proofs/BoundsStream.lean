import FstVerif.Proofs.Stream
/-
C14 (a), model level: the memory a stream holds — the frame stack and the key buffer `inp` —
is bounded by the length of the longest key (and of the lower bound), never by the number
of keys.

The stack and the key buffer change in five ways only (`StackInv`: clear, change the top frame's
transition index, pop at the root, pop elsewhere, push a child); `reach_inv` walks `streamNew`
(`seekLoop`, `seekFinish`) and `streamStep` once and shows that a predicate closed under these
moves holds in every reachable state.

Without any hypothesis on the store or the node access this gives `stack.length ≤ inp.length + 1`
(`C14_stream_depth`); over a good store whose transitions all lead somewhere (`Live`, true of
builder output) also `inp.length ≤ maxLen (den root)` (`C14_stream_inp_bound`).
-/
namespace Fst
namespace Bounds
open StreamP

variable {N σ : Type}

/-- the state a step leaves behind (`none` = panic) -/
def stepState : StepRes N σ → Option (SState N σ)
  | .panic => none
  | .done s => some s
  | .emit _ _ _ s => some s
  | .cont s => some s

/-- states of a stream between two passes of the loop of `next_with` -/
inductive SReach (acc : NodeAccess N) (A : Aut σ) (root : Nat) (min max : Bound) :
    SState N σ → Prop
  | new {st : SState N σ} : streamNew acc A root min max = some st → SReach acc A root min max st
  | step {st st' : SState N σ} : SReach acc A root min max st →
      stepState (streamStep acc A root st) = some st' → SReach acc A root min max st'

theorem length_dropLast_succ {α : Type} {l : List α} (h : l.isEmpty = false) :
    l.dropLast.length + 1 = l.length := by
  cases l with
  | nil => simp at h
  | cons a l => simp

/-- what one step does to the stack and the key buffer, whatever it returns -/
theorem step_cases (acc : NodeAccess N) (A : Aut σ) (root : Nat) (st st' : SState N σ)
    (h : stepState (streamStep acc A root st) = some st') :
    (st'.inp = st.inp ∧ (st'.stack = st.stack ∨ st'.stack = [])) ∨
    (∃ f rest, st.stack = f :: rest ∧ acc.addr f.node ≠ root ∧ st.inp.isEmpty = false ∧
      st'.stack = rest ∧ st'.inp = st.inp.dropLast) ∨
    (∃ f rest, st.stack = f :: rest ∧ acc.addr f.node = root ∧ st'.stack = rest ∧
      st'.inp = st.inp) ∨
    (∃ f rest t nn, st.stack = f :: rest ∧ f.trans < acc.len f.node ∧
      acc.transition f.node f.trans = some t ∧ acc.node t.addr = some nn ∧
      st'.inp = st.inp ++ [t.inp] ∧
      (st'.stack = [] ∨ st'.stack =
        ⟨nn, 0, f.out + t.out, A.accept f.autState t.inp⟩ :: { f with trans := f.trans + 1 } :: rest)) := by
  obtain ⟨inp, eo, stack, e⟩ := st
  cases eo with
  | some v =>
    left
    rw [step_empty] at h
    split at h
    · cases h; exact ⟨rfl, Or.inr rfl⟩
    · split at h <;> (cases h; exact ⟨rfl, Or.inl rfl⟩)
  | none =>
    cases stack with
    | nil => left; rw [step_nil] at h; cases h; exact ⟨rfl, Or.inl rfl⟩
    | cons f rest =>
      rcases step_total acc A f with hp | ⟨hi, hc⟩
      · rw [step_pop acc A root inp f rest e hp] at h
        split at h
        · rename_i hroot
          split at h
          · cases h
          · rename_i hne
            cases h
            exact Or.inr (Or.inl ⟨f, rest, rfl, hroot, by simpa using hne, rfl, rfl⟩)
        · rename_i hroot
          cases h
          exact Or.inr (Or.inr (Or.inl ⟨f, rest, rfl, by simpa using hroot, rfl, rfl⟩))
      · rw [step_descend acc A root inp f rest e hi hc] at h
        cases ht : acc.transition f.node f.trans with
        | none => rw [ht] at h; cases h
        | some t =>
          cases hnn : acc.node t.addr with
          | none => rw [ht] at h; simp only [hnn] at h; cases h
          | some nn =>
            rw [ht] at h
            simp only [hnn, descend] at h
            refine Or.inr (Or.inr (Or.inr ⟨f, rest, t, nn, rfl, hi, ht, hnn, ?_⟩))
            split at h
            · cases h; exact ⟨rfl, Or.inl rfl⟩
            · split at h <;> (cases h; exact ⟨rfl, Or.inr rfl⟩)

/-- a step pushes at most one frame and one byte -/
theorem C14_step_growth (acc : NodeAccess N) (A : Aut σ) (root : Nat) (s s' : SState N σ)
    (h : stepState (streamStep acc A root s) = some s') :
    s'.stack.length ≤ s.stack.length + 1 ∧ s'.inp.length ≤ s.inp.length + 1 := by
  rcases step_cases acc A root s s' h with
    ⟨e1, e2⟩ | ⟨f, rest, hst, _, _, e1, e2⟩ | ⟨f, rest, hst, _, e1, e2⟩ |
    ⟨f, rest, t, nn, hst, _, _, _, e1, e2⟩
  · rcases e2 with e2 | e2 <;> simp [e1, e2]
  · simp [e1, e2, hst]; omega
  · simp [e1, e2, hst]; omega
  · rcases e2 with e2 | e2 <;> simp [e1, e2, hst]

/-- a predicate on the frame stack and the key buffer that every move of the stream machine
keeps: clearing the stack, changing the top frame's transition index, popping the root frame,
popping another frame (with its byte), pushing the child of transition `i` of the top frame
with the byte `c` — `next_with` pushes the transition's own byte, `seek_min` the byte of the
bound that `find_input` found at `i` -/
structure StackInv (acc : NodeAccess N) (root : Nat) (I : List (Frame N σ) → Key → Prop) : Prop where
  clear : ∀ {stack p}, I stack p → I [] p
  retrans : ∀ {f rest p} (j : Nat), I (f :: rest) p → I ({ f with trans := j } :: rest) p
  popRoot : ∀ {f rest p}, I (f :: rest) p → acc.addr f.node = root → I rest p
  pop : ∀ {f rest p}, I (f :: rest) p → p.isEmpty = false → I rest p.dropLast
  push : ∀ {f rest p i t nn} (c : UInt8) (o : Nat) (q : σ), I (f :: rest) p →
    acc.transition f.node i = some t → acc.node t.addr = some nn →
    (i < acc.len f.node ∧ c = t.inp) ∨ acc.findInput f.node c = some (some i) →
    I (⟨nn, 0, o, q⟩ :: { f with trans := i + 1 } :: rest) (p ++ [c])

/-- the top frame of `seek_min`'s stack was left pointing just after the transition to `x` -/
def Link (acc : NodeAccess N) (stack : List (Frame N σ)) (x : N) : Prop :=
  match stack with
  | [] => True
  | top :: _ => top.trans ≠ 0 ∧ ∃ t, acc.transition top.node (top.trans - 1) = some t ∧
      acc.node t.addr = some x

/-- what the loop of `seek_min` leaves behind: the node it fell through with is a frame not yet
pushed, the child of the top frame's last transition -/
def SeekPost (acc : NodeAccess N) (I : List (Frame N σ) → Key → Prop) (inp : Key)
    (stack : List (Frame N σ)) : Option (N × Nat × σ) → Prop
  | none => I stack inp
  | some (x', o, q) => I (⟨x', 0, o, q⟩ :: stack) inp ∧ Link acc stack x' ∧
      (stack ≠ [] → inp.isEmpty = false)

section Walk

variable {acc : NodeAccess N} {root : Nat} {I : List (Frame N σ) → Key → Prop}

theorem step_inv (hI : StackInv acc root I) (A : Aut σ) {st st' : SState N σ}
    (h : stepState (streamStep acc A root st) = some st') (hJ : I st.stack st.inp) :
    I st'.stack st'.inp := by
  rcases step_cases acc A root st st' h with
    ⟨e1, e2⟩ | ⟨f, rest, hst, hroot, hne, e1, e2⟩ | ⟨f, rest, hst, hroot, e1, e2⟩ |
    ⟨f, rest, t, nn, hst, hlt, ht, hnn, e1, e2⟩
  · rw [e1]
    rcases e2 with e2 | e2
    · rw [e2]; exact hJ
    · rw [e2]; exact hI.clear hJ
  · rw [hst] at hJ; rw [e1, e2]; exact hI.pop hJ hne
  · rw [hst] at hJ; rw [e1, e2]; exact hI.popRoot hJ hroot
  · rw [hst] at hJ
    have := hI.push t.inp (f.out + t.out) (A.accept f.autState t.inp) hJ ht hnn (Or.inl ⟨hlt, rfl⟩)
    rw [e1]
    rcases e2 with e2 | e2
    · rw [e2]; exact hI.clear this
    · rw [e2]; exact this

/-- the loop of `seek_min`; it consumes at most the key -/
theorem seekLoop_inv (hI : StackInv acc root I) (A : Aut σ) (key : Key) (x : N) (out : Nat) (q : σ)
    (inp : Key) (stack : List (Frame N σ)) :
    SeekPost acc I inp stack (some (x, out, q)) → ∀ inp' stack' fin,
      seekLoop acc A key x out q inp stack = some (inp', stack', fin) →
      SeekPost acc I inp' stack' fin ∧ inp'.length ≤ inp.length + key.length := by
  fun_induction seekLoop acc A key x out q inp stack with
  | case1 =>  -- key consumed
    intro hf _ _ _ h
    cases h
    exact ⟨hf, Nat.le_add_right _ _⟩
  | case2 => intro _ _ _ _ h; cases h
  | case3 => intro _ _ _ _ h; cases h
  | case4 => intro _ _ _ _ h; cases h
  | case5 b bs x out q inp stack i hfind t ht nn hnn ih =>  -- descend
    intro hf inp' stack' fin h
    have := ih ⟨hI.push b _ _ hf.1 ht hnn (Or.inr hfind), ⟨by simp, t, by simpa using ht, hnn⟩,
      by simp⟩ inp' stack' fin h
    simp only [List.length_append, List.length_cons, List.length_nil] at this ⊢
    exact ⟨this.1, by omega⟩
  | case6 => intro _ _ _ _ h; cases h
  | case7 =>  -- no transition on the byte
    intro hf _ _ _ h
    cases h
    exact ⟨hI.retrans _ hf.1, Nat.le_add_right _ _⟩

/-- the epilogue of `seek_min` -/
theorem seekFinish_inv (hI : StackInv acc root I) {incl : Bool} {max : Bound} {inp : Key}
    {stack : List (Frame N σ)} {fin : Option (N × Nat × σ)} {st : SState N σ}
    (h : seekFinish acc incl max (inp, stack, fin) = some st)
    (hpost : SeekPost acc I inp stack fin) : I st.stack st.inp ∧ st.inp.length ≤ inp.length := by
  rcases seekFinish_cases h with ⟨rfl, rfl | rfl⟩ | ⟨top, rest, x, out, q, rfl, rfl, _, rfl⟩ |
    ⟨top, rest, x, out, q, t, n', rfl, rfl, _, ht, hn', rfl⟩
  · exact ⟨hpost, Nat.le_refl _⟩
  · rcases fin with _ | ⟨x, o, q⟩
    · exact ⟨hpost, Nat.le_refl _⟩
    · exact ⟨hI.clear hpost.1, Nat.le_refl _⟩
  · exact ⟨hI.retrans _ (hI.pop hpost.1 (hpost.2.2 (by simp))), by simp⟩
  · obtain ⟨hf, ⟨_, t', ht', hx'⟩, _⟩ := hpost
    obtain rfl := Option.some.inj (ht'.symm.trans ht)
    obtain rfl := Option.some.inj (hx'.symm.trans hn')
    exact ⟨hf, Nat.le_refl _⟩

/-- right after `StreamWithState::new` + `seek_min`: a predicate kept by the moves that holds of
the root frame holds, and `inp` is no longer than the lower-bound key -/
theorem streamNew_inv (hI : StackInv acc root I) {A : Aut σ}
    (h0 : ∀ r, acc.node root = some r → I [⟨r, 0, 0, A.start⟩] [])
    {min max : Bound} {st : SState N σ} (h : streamNew acc A root min max = some st) :
    I st.stack st.inp ∧ st.inp.length ≤ (Bound.key min).length := by
  cases hr : acc.node root with
  | none => simp [streamNew, hr] at h
  | some r =>
    cases hmin : min.isEmpty with
    | true =>
      rw [streamNew_empty acc A root min max hmin r hr] at h
      cases h
      exact ⟨h0 r hr, Nat.zero_le _⟩
    | false =>
      rw [streamNew_seek acc A root min max hmin r hr] at h
      cases hs : seekLoop acc A (Bound.key min) r 0 A.start [] [] with
      | none => rw [hs] at h; cases h
      | some res =>
        obtain ⟨inp, stack, fin⟩ := res
        rw [hs, Option.bind_some] at h
        obtain ⟨hpost, hle⟩ := seekLoop_inv hI A _ r 0 A.start [] []
          ⟨h0 r hr, trivial, fun h => absurd rfl h⟩ inp stack fin hs
        obtain ⟨hst, hle'⟩ := seekFinish_inv hI h hpost
        simp only [List.length_nil, Nat.zero_add] at hle
        exact ⟨hst, by omega⟩

/-- every reachable state satisfies a predicate kept by the moves that holds of the root frame -/
theorem reach_inv (hI : StackInv acc root I) {A : Aut σ}
    (h0 : ∀ r, acc.node root = some r → I [⟨r, 0, 0, A.start⟩] [])
    {min max : Bound} {st : SState N σ} (h : SReach acc A root min max st) : I st.stack st.inp := by
  induction h with
  | new h => exact (streamNew_inv hI h0 h).1
  | step _ hs ih => exact step_inv hI A hs ih

end Walk

theorem depth_inv (acc : NodeAccess N) (root : Nat) :
    StackInv acc root fun (stack : List (Frame N σ)) p => stack.length ≤ p.length + 1 where
  clear _ := by simp
  retrans _ h := h
  popRoot h _ := by simp only [List.length_cons] at h; omega
  pop h hne := by
    have := length_dropLast_succ hne
    simp only [List.length_cons] at h; omega
  push _ _ _ h _ _ _ := by
    simp only [List.length_cons, List.length_append, List.length_nil] at h ⊢; omega

/-- C14 (a): in every state reachable from `streamNew` by `streamStep`s the frame stack is
at most one longer than the key buffer. No hypothesis on the store or the node access. -/
theorem C14_stream_depth {acc : NodeAccess N} {A : Aut σ} {root : Nat} {min max : Bound}
    {st : SState N σ} (h : SReach acc A root min max st) :
    st.stack.length ≤ st.inp.length + 1 :=
  reach_inv (depth_inv acc root) (fun _ _ => Nat.le_refl _) h

theorem streamNew_inp_le (acc : NodeAccess N) (A : Aut σ) (root : Nat) (min max : Bound)
    (st : SState N σ) (h : streamNew acc A root min max = some st) :
    st.inp.length ≤ (Bound.key min).length :=
  (streamNew_inv (depth_inv acc root) (fun _ _ => Nat.le_refl _) h).2

/-- `p` leads from the root to `a`: whatever `a` spells, prefixed by `p`, the root spells -/
def Ext (den : Nat → KV) (root : Nat) (p : Key) (a : Nat) : Prop :=
  ∀ kv ∈ den a, ∃ v, (p ++ kv.1, v) ∈ den root

theorem ext_push {den : Nat → KV} {root : Nat} {p : Key} {a : Nat} {n : BNode} {t : Tr}
    (hd : den a = denNodeWith den n) (ht : t ∈ n.trans) (h : Ext den root p a) :
    Ext den root (p ++ [t.inp]) t.addr := by
  intro kv hkv
  obtain ⟨v, hv⟩ := h (t.inp :: kv.1, t.out + kv.2)
    (hd ▸ mem_denNodeWith.2 (Or.inr ⟨t, ht, mem_br.2 ⟨kv, hkv, rfl⟩⟩))
  exact ⟨v, by simpa using hv⟩

section Inv

variable (acc : NodeAccess N) (s : Store) (den : Nat → KV) (root : Nat)

/-- a frame holding node `x`, reached by `p`, above the frames `rest` -/
def FrameOK (x : N) (rest : List (Frame N σ)) (p : Key) : Prop :=
  ∃ a n, NodeRep acc s den x a n ∧ InStore s a n ∧ a ≤ root ∧ Ext den root p a ∧
    (a = root → rest = []) ∧ (rest = [] ↔ p = [])

/-- the stack is a path of the store from the root, one byte of `p` per frame above the
bottom one -/
def Chain : List (Frame N σ) → Key → Prop
  | [], _ => True
  | f :: rest, p => FrameOK acc s den root f.node rest p ∧ Chain rest p.dropLast

end Inv

section Preserve

variable {acc : NodeAccess N} {s : Store} {den : Nat → KV} {root : Nat} {P : Key → Prop}

theorem chain_frame_congr {f g : Frame N σ} {rest : List (Frame N σ)} {p : Key}
    (hfg : g.node = f.node) (h : Chain acc s den root (f :: rest) p) :
    Chain acc s den root (g :: rest) p := by
  simp only [Chain] at h ⊢
  rw [hfg]; exact h

theorem chain_length : ∀ (stack : List (Frame N σ)) (f : Frame N σ) (p : Key),
    Chain acc s den root (f :: stack) p → (f :: stack).length = p.length + 1 := by
  intro stack
  induction stack with
  | nil =>
    intro f p h
    obtain ⟨⟨_, _, _, _, _, _, _, hiff⟩, _⟩ := h
    rw [hiff.1 rfl]; rfl
  | cons g rest ih =>
    intro f p h
    obtain ⟨⟨_, _, _, _, _, _, _, hiff⟩, hrest⟩ := h
    have hne : p.isEmpty = false := by
      cases p with
      | nil => exact absurd (hiff.2 rfl) (by simp)
      | cons _ _ => rfl
    rw [List.length_cons, ih g _ hrest, length_dropLast_succ hne]

theorem frameOK_child (hg : GoodStore s den) (hr : Represents acc s)
    (hP : ∀ p a n t, Ext den root p a → (a, n) ∈ s → t ∈ n.trans → P (p ++ [t.inp]))
    {x : N} {rest : List (Frame N σ)} {p : Key} {i : Nat} {t : Tr} {nn : N}
    (hf : FrameOK acc s den root x rest p) (hi : i < acc.len x)
    (ht : acc.transition x i = some t) (hnn : acc.node t.addr = some nn) :
    ∀ (g : Frame N σ) (rest' : List (Frame N σ)),
      FrameOK acc s den root nn (g :: rest') (p ++ [t.inp]) ∧ P (p ++ [t.inp]) := by
  intro g rest'
  obtain ⟨a, n, R, hin, hle, hext, _⟩ := hf
  have hi' : i < n.trans.length := by rw [← R.len]; exact hi
  obtain rfl : n.trans[i] = t := Option.some.inj ((R.trans i hi').symm.trans ht)
  have htm := List.getElem_mem hi'
  obtain ⟨n', x', R', hin', hlt⟩ := rep_child hg hr R hi'
  obtain rfl : x' = nn := Option.some.inj (R'.node.symm.trans hnn)
  have hmem : (a, n) ∈ s := by
    rcases hin with ⟨_, h0⟩ | h
    · rw [h0] at hi'; cases hi'
    · exact h
  have hlt' := Nat.lt_of_lt_of_le hlt hle
  exact ⟨⟨_, n', R', hin', Nat.le_of_lt hlt', ext_push R.den_eq htm hext,
    fun e => absurd e (Nat.ne_of_lt hlt'), by simp⟩, hP p a n _ hext hmem htm⟩

/-- the path invariant (`P` = what is known about the key buffer) is kept by the moves -/
theorem chain_inv (hg : GoodStore s den) (hr : Represents acc s)
    (hP0 : ∀ p, P p → P p.dropLast)
    (hP : ∀ p a n t, Ext den root p a → (a, n) ∈ s → t ∈ n.trans → P (p ++ [t.inp])) :
    StackInv acc root fun (stack : List (Frame N σ)) p => P p ∧ Chain acc s den root stack p where
  clear h := ⟨h.1, trivial⟩
  retrans _ h := ⟨h.1, chain_frame_congr rfl h.2⟩
  popRoot h hroot := by
    obtain ⟨⟨a, n, R, _, _, _, hbot, _⟩, _⟩ := h.2
    rw [hbot (by rw [← R.addr]; exact hroot)]
    exact ⟨h.1, trivial⟩
  pop h _ := ⟨hP0 _ h.1, h.2.2⟩
  push {f rest p i t nn} c o q h ht hnn hc := by
    -- either way the index is in range and the byte pushed is the transition's
    have hic : i < acc.len f.node ∧ c = t.inp := by
      rcases hc with hc | hfind
      · exact hc
      · obtain ⟨a, n, R, _⟩ := h.2.1
        obtain ⟨hi, hb, _, _⟩ := transIdx_split R.sorted
          (Option.some.inj ((R.find c).symm.trans hfind))
        exact ⟨by rw [R.len]; exact hi,
          by rw [← hb, Option.some.inj ((R.trans i hi).symm.trans ht)]⟩
    obtain ⟨hi, rfl⟩ := hic
    obtain ⟨hf', hp'⟩ := frameOK_child hg hr hP h.2.1 hi ht hnn { f with trans := i + 1 } rest
    exact ⟨hp', hf', by rw [List.dropLast_concat]; exact chain_frame_congr (f := f) rfl h.2⟩

/-- `reach_inv` for `chain_inv`: every reachable state satisfies `P` on the key buffer and `Chain` -/
theorem reach_J (hg : GoodStore s den) (hr : Represents acc s)
    (hroot : root = 0 ∨ ∃ n, (root, n) ∈ s) (hPnil : P [])
    (hP0 : ∀ p, P p → P p.dropLast)
    (hP : ∀ p a n t, Ext den root p a → (a, n) ∈ s → t ∈ n.trans → P (p ++ [t.inp]))
    {A : Aut σ} {min max : Bound} {st : SState N σ} (h : SReach acc A root min max st) :
    P st.inp ∧ Chain acc s den root st.stack st.inp := by
  refine reach_inv (chain_inv hg hr hP0 hP) (fun r hr0 => ?_) h
  obtain ⟨nr, r', R, hin, _⟩ := valid_rep_in hg hr (show Valid s root from hroot)
  obtain rfl := Option.some.inj (R.node.symm.trans hr0)
  exact ⟨hPnil, ⟨root, nr, R, hin, Nat.le_refl _, fun kv h => ⟨kv.2, by simpa using h⟩, fun _ => rfl,
    ⟨fun _ => rfl, fun _ => rfl⟩⟩, trivial⟩

end Preserve

/-- length of the longest key of an association list -/
def maxLen : KV → Nat
  | [] => 0
  | kv :: l => max kv.1.length (maxLen l)

theorem le_maxLen : ∀ {l : KV} {k : Key} {v : Nat}, (k, v) ∈ l → k.length ≤ maxLen l
  | kv :: l, k, v, h => by
    simp only [List.mem_cons] at h
    simp only [maxLen]
    rcases h with e | e
    · subst e; exact Nat.le_max_left ..
    · exact Nat.le_trans (le_maxLen e) (Nat.le_max_right ..)

/-- no transition of the store leads to a node that spells nothing (true for builder
output: `Bounds.live_of_tight` in `Proofs/Bounds.lean`) -/
def Live (s : Store) (den : Nat → KV) : Prop :=
  ∀ a n, (a, n) ∈ s → ∀ t ∈ n.trans, den t.addr ≠ []

section Main

variable {acc : NodeAccess N} {s : Store} {den : Nat → KV} {root : Nat}
  {A : Aut σ} {min max : Bound} {st : SState N σ}

/-- C14 (a), exact depth over a good store: while the stack is not empty it is exactly one
frame longer than the key buffer -/
theorem C14_stream_depth_exact (hg : GoodStore s den) (hr : Represents acc s)
    (hroot : root = 0 ∨ ∃ n, (root, n) ∈ s) (h : SReach acc A root min max st) :
    st.stack = [] ∨ st.stack.length = st.inp.length + 1 := by
  have hc := (reach_J (P := fun _ => True) hg hr hroot trivial (fun _ _ => trivial)
    (fun _ _ _ _ _ _ _ => trivial) h).2
  cases hst : st.stack with
  | nil => exact Or.inl rfl
  | cons f rest => rw [hst] at hc; exact Or.inr (chain_length rest f _ hc)

/-- C14 (a), the key buffer is a path of the store: extended by any key below the top
frame it is a key of the root -/
theorem C14_stream_inp_key (hg : GoodStore s den) (hr : Represents acc s)
    (hroot : root = 0 ∨ ∃ n, (root, n) ∈ s) (h : SReach acc A root min max st) :
    ∀ f rest, st.stack = f :: rest →
      ∀ kv ∈ den (acc.addr f.node), ∃ v, (st.inp ++ kv.1, v) ∈ den root := by
  have hJ := reach_J (P := fun _ => True) hg hr hroot trivial (fun _ _ => trivial)
    (fun _ _ _ _ _ _ _ => trivial) h
  intro f rest hst
  have hc := hJ.2
  rw [hst] at hc
  obtain ⟨⟨a, n, R, _, _, hext, _⟩, _⟩ := hc
  rw [R.addr]
  exact hext

/-- C14 (a), the bound: over a good store without dead transitions, in every reachable
state the key buffer is no longer than the longest key of the map and the stack holds at
most one frame more. Nothing depends on the number of keys. -/
theorem C14_stream_inp_bound (hg : GoodStore s den) (hr : Represents acc s)
    (hroot : root = 0 ∨ ∃ n, (root, n) ∈ s) (hlive : Live s den)
    (h : SReach acc A root min max st) :
    st.inp.length ≤ maxLen (den root) ∧ st.stack.length ≤ maxLen (den root) + 1 := by
  have hJ := reach_J (P := fun p => p.length ≤ maxLen (den root)) hg hr hroot
    (Nat.zero_le _) (fun p hp => by rw [List.length_dropLast]; exact Nat.le_trans (Nat.sub_le ..) hp)
    (by
      intro p a n t hext hmem ht
      have hext' := ext_push (hg.unfold a n hmem) ht hext
      have hne := hlive a n hmem t ht
      cases hd : den t.addr with
      | nil => exact absurd hd hne
      | cons kv l =>
        obtain ⟨v, hv⟩ := hext' kv (by rw [hd]; simp)
        exact Nat.le_trans (Nat.le_add_right ..) (List.length_append ▸ le_maxLen hv)) h
  have h1 : st.inp.length ≤ maxLen (den root) := hJ.1
  have h2 := C14_stream_depth h
  exact ⟨h1, Nat.le_trans h2 (Nat.succ_le_succ h1)⟩

end Main

namespace Example
open StreamExample

theorem exLive : Live exStore exDen := fun a n h =>
  (by decide : ∀ e ∈ exStore, ∀ t ∈ e.2.trans, exDen t.addr ≠ []) (a, n) h

/-- the state after `streamNew` and `k` steps -/
def runSteps (min max : Bound) : Nat → Option (SState (Nat × BNode) Unit)
  | 0 => streamNew (storeAccess exStore) autAlways 5 min max
  | k + 1 => (runSteps min max k).bind fun st =>
      stepState (streamStep (storeAccess exStore) autAlways 5 st)

theorem runSteps_reach (min max : Bound) : ∀ k st, runSteps min max k = some st →
    SReach (storeAccess exStore) autAlways 5 min max st
  | 0, st, h => .new h
  | k + 1, st, h => by
    simp only [runSteps] at h
    cases hk : runSteps min max k with
    | none => rw [hk] at h; cases h
    | some st0 => rw [hk] at h; exact .step (runSteps_reach min max k st0 hk) h

/-- (stack depth, key buffer length) along a whole traversal: the depth is `inp.length + 1`
until the stack is empty -/
def depths (min max : Bound) (k : Nat) : List (Nat × Nat) :=
  (List.range k).filterMap fun i => (runSteps min max i).map fun st => (st.stack.length, st.inp.length)

/-- info: [(1, 0), (2, 1), (3, 2), (2, 1), (1, 0), (2, 1), (1, 0), (0, 0), (0, 0)] -/
#guard_msgs in
#eval depths .unbounded .unbounded 9

-- after a seek; the last states are after `next` returned `None` (upper bound exceeded:
-- the stack is cleared, the key buffer keeps the offending path)
/-- info: [(2, 1), (3, 2), (2, 1), (1, 0), (0, 1), (0, 1), (0, 1)] -/
#guard_msgs in
#eval depths (.included [97, 98]) (.excluded [98]) 7

example : ∃ st, runSteps (.excluded [97]) .unbounded 3 = some st ∧
    SReach (storeAccess exStore) autAlways 5 (.excluded [97]) .unbounded st ∧
    (st.stack = [] ∨ st.stack.length = st.inp.length + 1) ∧
    st.inp.length ≤ maxLen (exDen 5) ∧ st.stack.length ≤ maxLen (exDen 5) + 1 := by
  have hs : (runSteps (.excluded [97]) .unbounded 3).isSome = true := by decide
  obtain ⟨st, hst⟩ := Option.isSome_iff_exists.mp hs
  have hr := runSteps_reach _ _ _ _ hst
  have hb := C14_stream_inp_bound exGood (storeAccess_represents exStore) exRoot exLive hr
  exact ⟨st, hst, hr,
    C14_stream_depth_exact exGood (storeAccess_represents exStore) exRoot hr, hb.1, hb.2⟩

end Example

end Bounds
end Fst
