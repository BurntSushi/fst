import FstVerif.Proofs.BuildStore
/-
The model of the incremental builder (`Model/Build.lean`, mirror of `src/raw/build.rs`) stores
exactly the inserted map, for every cache geometry.

Vocabulary that the statements of other files use: `insertAll`, `addAll`, `SortedKeysLe`,
`dedupKeys`, `zeroKV`; `Reachable`.

The states between public calls satisfy `Inv` (`Core`: what the unfinished stack spells, `denK`).
`compile_from` is iterated `pop_freeze` (`PopFacts`, a motive `PopMotive` kept by one pop) and leaves
what `Popped` says; an accepted call is a `Step` (empty / repeated / greater key, the last a
`NewKeyRun`: `cps`, pops, `add_suffix`) and keeps `Inv` (`step_inv`); `finish` is a `FinishRun`.
To carry a further invariant: a `PopMotive` plus one lemma on `Step`, lifted to every reachable
state by `Reachable.step_induction` (the node-wise ones are in `Proofs/BuildSide.lean`).
What a user of this file calls: `insert_step` / `add_step` (an accepted call is a `Step`), `step_inv`
and `insert_inv`, `insertAll_inv` / `addAll_inv`, `finish_ok` / `finish_spec`, `reachable_inv`; what a
call returns on a reachable state: `insert_result` / `add_result`, `IOB.insert_error` / `IOB.add_error`.
-/
namespace Fst

/-! ### `check_last_key` -/

theorem checkLastKey_none {s : BState} (bs : Key) (d : Bool) (h : s.last = none) :
    s.checkLastKey bs d = .ok { s with last := some bs } := by
  unfold BState.checkLastKey; rw [h]

theorem checkLastKey_map {s : BState} {last : Key} (bs : Key) (h : s.last = some last) :
    s.checkLastKey bs true =
      if lexLt last bs then .ok { s with last := some bs }
      else if bs = last then .error (.duplicateKey bs)
      else .error (.outOfOrder last bs) := by
  unfold BState.checkLastKey; rw [h]
  simp only [Bool.true_and, beq_iff_eq]
  by_cases e : bs = last
  · subst e; simp [lexLt_irrefl]
  · simp only [e, if_false]
    cases h1 : lexLt last bs with
    | true => simp [lexLt_asymm h1]
    | false =>
      cases h2 : lexLt bs last with
      | true => simp
      | false => exact absurd (lexLt_total h2 h1) e

theorem checkLastKey_set {s : BState} {last : Key} (bs : Key) (h : s.last = some last) :
    s.checkLastKey bs false =
      if lexLe last bs then .ok { s with last := some bs }
      else .error (.outOfOrder last bs) := by
  unfold BState.checkLastKey; rw [h]
  simp only [Bool.false_and, Bool.false_eq_true, if_false, lexLe]
  by_cases hx : lexLt bs last = true <;> simp [hx]

theorem insert_ok_iff {s s' : BState} {k : Key} {v : Nat} :
    s.insert k v = .ok s' ↔ (∀ last, s.last = some last → lexLt last k = true) ∧
      ({ s with last := some k } : BState).insertOutput k (some v) = .ok s' := by
  unfold BState.insert
  cases hl : s.last with
  | none =>
    rw [checkLastKey_none k true hl]
    exact ⟨fun h => ⟨fun _ h' => (nomatch h'), h⟩, fun h => h.2⟩
  | some last =>
    rw [checkLastKey_map k hl]
    by_cases hlt : lexLt last k = true
    · rw [if_pos hlt]
      exact ⟨fun h => ⟨fun _ h' => Option.some.inj h' ▸ hlt, h⟩, fun h => h.2⟩
    · rw [if_neg hlt]
      refine ⟨fun h => ?_, fun h => absurd (h.1 last rfl) hlt⟩
      by_cases hk : k = last
      · rw [if_pos hk] at h; cases h
      · rw [if_neg hk] at h; cases h

theorem add_ok_iff {s s' : BState} {k : Key} :
    s.add k = .ok s' ↔ (∀ last, s.last = some last → lexLe last k = true) ∧
      ({ s with last := some k } : BState).insertOutput k none = .ok s' := by
  unfold BState.add
  cases hl : s.last with
  | none =>
    rw [checkLastKey_none k false hl]
    exact ⟨fun h => ⟨fun _ h' => (nomatch h'), h⟩, fun h => h.2⟩
  | some last =>
    rw [checkLastKey_set k hl]
    by_cases hle : lexLe last k = true
    · rw [if_pos hle]
      exact ⟨fun h => ⟨fun _ h' => Option.some.inj h' ▸ hle, h⟩, fun h => h.2⟩
    · rw [if_neg hle]
      exact ⟨fun h => (nomatch h), fun h => absurd (h.1 last rfl) hle⟩

theorem insert_ok_lt {s s' : BState} {k : Key} {v : Nat} (h : s.insert k v = .ok s') :
    ∀ last, s.last = some last → lexLt last k = true := (insert_ok_iff.mp h).1

theorem add_ok_le {s s' : BState} {k : Key} (h : s.add k = .ok s') :
    ∀ last, s.last = some last → lexLe last k = true := (add_ok_iff.mp h).1

/-! ### what the unfinished stack spells: `denK`, `pathKey`, `pathOut` -/

def shift (p : Nat) (l : KV) : KV := l.map fun kv => (kv.1, p + kv.2)

/-- what the unfinished stack spells; `k` is what hangs below the pending transition of
its last node (`[]` for a whole stack) -/
def denK (d : Nat → KV) : List UNode → KV → KV
  | [], k => k
  | u :: rest, k =>
    denNodeWith d u.node ++ (match u.last with
      | none => []
      | some (b, o) => lift b o (denK d rest k))

theorem denK_append (d : Nat → KV) (xs ys : List UNode) (k : KV) :
    denK d (xs ++ ys) k = denK d xs (denK d ys k) := by
  induction xs with
  | nil => rfl
  | cons u xs ih => simp only [List.cons_append, denK, ih]

/-- all but the last node have a pending transition, the last has none -/
def WFStack : List UNode → Prop
  | [] => False
  | [u] => u.last = none
  | u :: v :: rest => u.last.isSome ∧ WFStack (v :: rest)

theorem WFStack_cons_cons {u v : UNode} {rest : List UNode} :
    WFStack (u :: v :: rest) ↔ u.last.isSome ∧ WFStack (v :: rest) := Iff.rfl

theorem WFStack_append {xs : List UNode} {y : UNode} {ys : List UNode} :
    WFStack (xs ++ y :: ys) ↔ (∀ u ∈ xs, u.last.isSome) ∧ WFStack (y :: ys) := by
  induction xs with
  | nil => simp
  | cons x xs ih =>
    cases xs with
    | nil => simp [WFStack]
    | cons x' xs' =>
      simp only [List.cons_append] at ih ⊢
      rw [WFStack_cons_cons, ih]
      simp only [List.mem_cons, forall_eq_or_imp, and_assoc]

theorem WFStack_ne_nil {st : List UNode} (h : WFStack st) : st ≠ [] := by
  intro e; subst e; exact h

/-- inputs and outputs along the pending path -/
def pathKey : List UNode → Key
  | [] => []
  | u :: rest => (match u.last with | some (b, _) => [b] | none => []) ++ pathKey rest

def pathOut : List UNode → Nat
  | [] => 0
  | u :: rest => (match u.last with | some (_, o) => o | none => 0) + pathOut rest

theorem pathKey_append (xs ys : List UNode) : pathKey (xs ++ ys) = pathKey xs ++ pathKey ys := by
  induction xs with
  | nil => rfl
  | cons u xs ih => simp only [List.cons_append, pathKey, ih, List.append_assoc]

theorem pathOut_append (xs ys : List UNode) : pathOut (xs ++ ys) = pathOut xs + pathOut ys := by
  induction xs with
  | nil => simp [pathOut]
  | cons u xs ih => simp only [List.cons_append, pathOut, ih, Nat.add_assoc]

theorem pathKey_length_of_isSome : ∀ {xs : List UNode}, (∀ u ∈ xs, u.last.isSome) →
    (pathKey xs).length = xs.length := by
  intro xs
  induction xs with
  | nil => intro _; rfl
  | cons u xs ih =>
    intro h
    obtain ⟨bo, hbo⟩ := Option.isSome_iff_exists.mp (h u (by simp))
    rw [pathKey, hbo]
    exact congrArg (· + 1) (ih fun w hw => h w (List.mem_cons_of_mem _ hw))

theorem pathKey_length {st : List UNode} (h : WFStack st) : (pathKey st).length + 1 = st.length := by
  induction st with
  | nil => exact absurd h id
  | cons u st ih =>
    cases st with
    | nil =>
      have : u.last = none := h
      simp [pathKey, this]
    | cons v rest =>
      obtain ⟨hsome, hw⟩ := WFStack_cons_cons.mp h
      obtain ⟨bo, hbo⟩ := Option.isSome_iff_exists.mp hsome
      rw [pathKey, hbo]
      exact congrArg (· + 1) (ih hw)

namespace BuildP

theorem lift_append (b : UInt8) (o : Nat) (x y : KV) :
    lift b o (x ++ y) = lift b o x ++ lift b o y := by simp [lift]

theorem lift_shift (b : UInt8) (c p : Nat) (l : KV) : lift b c (shift p l) = lift b (c + p) l := by
  simp [lift, shift, List.map_map, Function.comp_def, Nat.add_assoc]

theorem shift_lift (b : UInt8) (o p : Nat) (l : KV) : shift p (lift b o l) = lift b (p + o) l := by
  simp [lift, shift, List.map_map, Function.comp_def, Nat.add_assoc]

theorem shift_append (p : Nat) (a b : KV) : shift p (a ++ b) = shift p a ++ shift p b := by
  simp [shift]

theorem shift_zero (l : KV) : shift 0 l = l := by simp [shift]

end BuildP
open BuildP

/-- an entry appended at the very bottom of a stack surfaces as the last entry of what the stack
spells, prefixed by the path above it: it is the greatest key below every node -/
theorem denK_snoc (d : Nat → KV) : ∀ (xs : List UNode), (∀ u ∈ xs, u.last.isSome) →
    ∀ (X : KV) (k : Key) (o : Nat),
    denK d xs (X ++ [(k, o)]) = denK d xs X ++ [(pathKey xs ++ k, pathOut xs + o)] := by
  intro xs
  induction xs with
  | nil => intro _ X k o; simp [denK, pathKey, pathOut]
  | cons u xs ih =>
    intro h X k o
    obtain ⟨bo, hbo⟩ := Option.isSome_iff_exists.mp (h u (by simp))
    obtain ⟨b, ob⟩ := bo
    simp only [denK, hbo, pathKey, pathOut,
      ih (fun w hw => h w (List.mem_cons_of_mem _ hw)) X k o, lift_append]
    simp [lift, Nat.add_assoc]

/-! ### `add_output_prefix` -/

theorem flatMap_addPrefix (d : Nat → KV) (p : Nat) (ts : List Tr) :
    (ts.map fun t => { t with out := p + t.out }).flatMap (fun t => lift t.inp t.out (d t.addr))
      = shift p (ts.flatMap fun t => lift t.inp t.out (d t.addr)) := by
  induction ts with
  | nil => rfl
  | cons t ts ih =>
    simp only [List.map_cons, List.flatMap_cons, ih, shift_append, shift_lift]

theorem denNodeWith_addPrefix (d : Nat → KV) (p : Nat) (v : UNode) :
    denNodeWith d (v.addPrefix p).node = shift p (denNodeWith d v.node) := by
  simp only [denNodeWith, UNode.addPrefix, shift_append, flatMap_addPrefix]
  congr 1
  cases hf : v.node.fin <;> simp [own, hf, shift]

theorem denK_addPrefix (d : Nat → KV) (p : Nat) (v : UNode) (rest : List UNode) (k : KV) :
    denK d (v.addPrefix p :: rest) k = shift p (denK d (v :: rest) k) := by
  simp only [denK, denNodeWith_addPrefix, shift_append]
  congr 1
  cases hl : v.last with
  | none => simp [UNode.addPrefix, hl, shift]
  | some bo => simp [UNode.addPrefix, hl, shift_lift]

theorem addPrefix_last_isSome (p : Nat) (v : UNode) : (v.addPrefix p).last.isSome = v.last.isSome := by
  cases h : v.last <;> simp [UNode.addPrefix, h]

theorem pathKey_addPrefix (p : Nat) (v : UNode) (rest : List UNode) :
    pathKey (v.addPrefix p :: rest) = pathKey (v :: rest) := by
  cases h : v.last with
  | none => simp [pathKey, UNode.addPrefix, h]
  | some bo => simp [pathKey, UNode.addPrefix, h]

theorem WFStack_head_congr {v v' : UNode} {rest : List UNode} (h : v'.last.isSome = v.last.isSome) :
    WFStack (v :: rest) → WFStack (v' :: rest) := by
  cases rest with
  | nil =>
    intro hw
    exact Option.not_isSome_iff_eq_none.mp (by rw [h, show v.last = none from hw]; simp)
  | cons w ws => exact fun hw => ⟨h ▸ hw.1, hw.2⟩

/-! ### `find_common_prefix_and_set_output` -/

/-- the node pushed down by one step of `cps` -/
def pushed (o out : Nat) (v : UNode) : UNode :=
  if o - min o out ≠ 0 then v.addPrefix (o - min o out) else v

theorem cps_step (u v : UNode) (rest : List UNode) (b : UInt8) (bs : Key) (out : Nat) (o : Nat)
    (hl : u.last = some (b, o)) :
    cps (u :: v :: rest) (b :: bs) out =
      ((cps (pushed o out v :: rest) bs (out - min o out)).1 + 1,
       (cps (pushed o out v :: rest) bs (out - min o out)).2.1,
       { u with last := some (b, min o out) } :: (cps (pushed o out v :: rest) bs (out - min o out)).2.2) := by
  rw [cps, hl]
  simp only [if_true, pushed]

theorem cps_stop (u v : UNode) (rest : List UNode) (b : UInt8) (bs : Key) (out : Nat)
    (hl : ∀ o, u.last ≠ some (b, o)) :
    cps (u :: v :: rest) (b :: bs) out = (0, out, u :: v :: rest) := by
  rw [cps]
  cases h : u.last with
  | none => rfl
  | some bo =>
    obtain ⟨b', o⟩ := bo
    simp only
    rw [if_neg fun e : b' = b => hl o (e ▸ h)]

theorem cps_nil_key (stack : List UNode) (out : Nat) : cps stack [] out = (0, out, stack) := by
  cases stack with
  | nil => simp [cps]
  | cons u st => cases st <;> simp [cps]

theorem cps_single (u : UNode) (key : Key) (out : Nat) : cps [u] key out = (0, out, [u]) := by
  cases key <;> simp [cps]

theorem pushed_last_isSome (o out : Nat) (v : UNode) : (pushed o out v).last.isSome = v.last.isSome := by
  unfold pushed; split
  · exact addPrefix_last_isSome _ _
  · rfl

theorem pathKey_pushed (o out : Nat) (v : UNode) (rest : List UNode) :
    pathKey (pushed o out v :: rest) = pathKey (v :: rest) := by
  unfold pushed; split
  · exact pathKey_addPrefix _ _ _
  · rfl

def lcp : Key → Key → Nat
  | a :: as, b :: bs => if a = b then lcp as bs + 1 else 0
  | _, _ => 0

/-- `cps` on a well-formed stack either stops at once (the key and the pending path share no
first byte) or takes one step and goes on below -/
theorem cps_induct {motive : List UNode → Key → Nat → Prop}
    (hstop : ∀ stack key out, WFStack stack → lcp key (pathKey stack) = 0 →
      cps stack key out = (0, out, stack) → motive stack key out)
    (hstep : ∀ u v rest b bs out o, WFStack (u :: v :: rest) → u.last = some (b, o) →
      WFStack (pushed o out v :: rest) →
      motive (pushed o out v :: rest) bs (out - min o out) → motive (u :: v :: rest) (b :: bs) out) :
    ∀ (key : Key) (stack : List UNode) (out : Nat), WFStack stack → motive stack key out := by
  intro key
  induction key with
  | nil => intro stack out hw; exact hstop stack [] out hw (by simp [lcp]) (cps_nil_key stack out)
  | cons b bs ih =>
    intro stack out hw
    match stack, hw with
    | [u], hw =>
      exact hstop [u] _ out hw (by simp [pathKey, show u.last = none from hw, lcp]) (cps_single u _ out)
    | u :: v :: rest, hw =>
      obtain ⟨hsome, hw'⟩ := WFStack_cons_cons.mp hw
      by_cases h : ∃ o, u.last = some (b, o)
      · obtain ⟨o, ho⟩ := h
        have hwv : WFStack (pushed o out v :: rest) :=
          WFStack_head_congr (pushed_last_isSome _ _ _) hw'
        exact hstep u v rest b bs out o hw ho hwv (ih _ _ hwv)
      · have hl : ∀ o, u.last ≠ some (b, o) := fun o ho => h ⟨o, ho⟩
        obtain ⟨bo, hbo⟩ := Option.isSome_iff_exists.mp hsome
        obtain ⟨b', o⟩ := bo
        have hne : ¬ b = b' := by intro e; subst e; exact hl o hbo
        exact hstop _ _ out hw (by simp [pathKey, hbo, lcp, hne]) (cps_stop _ _ _ _ _ _ hl)

/-- What `find_common_prefix_and_set_output` returns on a well-formed stack: the length of the
common prefix of the key and the pending path, the output left for the suffix, and a stack that
spells the same and whose matched part carries the key prefix and `out - rem`. -/
structure CpsSpec (stack : List UNode) (key : Key) (out : Nat) (r : Nat × Nat × List UNode) :
    Prop where
  wf : WFStack r.2.2
  length : r.2.2.length = stack.length
  path : pathKey r.2.2 = pathKey stack
  index : r.1 = lcp key (pathKey stack)
  den : ∀ (d : Nat → KV) (k : KV), denK d r.2.2 k = denK d stack k
  takeKey : pathKey (r.2.2.take r.1) = key.take r.1
  takeOut : pathOut (r.2.2.take r.1) + r.2.1 = out

theorem CpsSpec.zero {stack : List UNode} {key : Key} {out : Nat} (hw : WFStack stack)
    (h0 : lcp key (pathKey stack) = 0) : CpsSpec stack key out (0, out, stack) :=
  ⟨hw, rfl, rfl, h0.symm, fun _ _ => rfl, by simp [pathKey], by simp [pathOut]⟩

theorem cps_spec (key : Key) (stack : List UNode) (out : Nat) (hw : WFStack stack) :
    CpsSpec stack key out (cps stack key out) := by
  revert hw
  refine cps_induct (motive := fun stack key out => CpsSpec stack key out (cps stack key out))
    ?_ ?_ key stack out
  · intro stack key out hw h0 e; rw [e]; exact .zero hw h0
  · intro u v rest b bs out o _ hl _ ih
    rw [cps_step _ _ _ _ _ _ _ hl]
    generalize cps (pushed o out v :: rest) bs (out - min o out) = r at ih
    obtain ⟨i, rem, st⟩ := r
    obtain ⟨i1, i2, i3, i4, i5, i6, i7⟩ := ih
    simp only at i1 i2 i3 i4 i5 i6 i7
    refine ⟨?_, ?_, ?_, ?_, fun d k => ?_, ?_, ?_⟩
    · cases st with
      | nil => exact absurd i1 id
      | cons w ws => exact WFStack_cons_cons.mpr ⟨rfl, i1⟩
    · simp only [List.length_cons, i2]
    · simp only [pathKey, hl]
      rw [i3, pathKey_pushed]
      rfl
    · simp only [i4, pathKey_pushed]
      simp only [pathKey, hl]
      rw [List.singleton_append, lcp, if_pos rfl]
    · simp only [denK, hl]
      congr 1
      rw [i5]
      unfold pushed
      by_cases hz : o - min o out = 0
      · have hmin : min o out = o := Nat.le_antisymm (Nat.min_le_left o out) (Nat.le_of_sub_eq_zero hz)
        rw [if_neg (not_not_intro hz), hmin]
        rfl
      · rw [if_pos hz, denK_addPrefix, lift_shift, Nat.add_sub_of_le (Nat.min_le_left o out)]
        rfl
    · simp only [List.take_succ_cons, pathKey, i6]
      simp
    · simp only [List.take_succ_cons, pathOut]
      rw [Nat.add_assoc, i7, Nat.add_sub_of_le (Nat.min_le_right o out)]

theorem cps_forall (P : UNode → Prop)
    (h1 : ∀ u b o c, u.last = some (b, o) → P u → P { u with last := some (b, c) })
    (h2 : ∀ v p, P v → P (v.addPrefix p))
    (key : Key) (stack : List UNode) (out : Nat) (hw : WFStack stack) :
    (∀ u ∈ stack, P u) → ∀ u ∈ (cps stack key out).2.2, P u := by
  revert hw
  refine cps_induct (motive := fun stack key out =>
    (∀ u ∈ stack, P u) → ∀ u ∈ (cps stack key out).2.2, P u) ?_ ?_ key stack out
  · intro stack key out _ _ e; rw [e]; exact id
  · intro u v rest b bs out o _ hl _ ih hP
    rw [cps_step _ _ _ _ _ _ _ hl]
    simp only
    have hP' : ∀ w ∈ pushed o out v :: rest, P w := by
      intro w hw
      simp only [List.mem_cons] at hw
      rcases hw with rfl | hw
      · unfold pushed; split
        · exact h2 _ _ (hP v (by simp))
        · exact hP v (by simp)
      · exact hP w (by simp [hw])
    intro w hw
    simp only [List.mem_cons] at hw
    rcases hw with rfl | hw
    · exact h1 u b o _ hl (hP u (by simp))
    · exact ih hP' w hw

theorem lcp_le_right : ∀ (a b : Key), lcp a b ≤ b.length
  | [], _ => by simp [lcp]
  | _ :: _, [] => by simp [lcp]
  | x :: xs, y :: ys => by
    simp only [lcp]; split
    · have := lcp_le_right xs ys; simp; omega
    · simp

theorem lcp_self : ∀ a : Key, lcp a a = a.length
  | [] => rfl
  | x :: xs => by simp [lcp, lcp_self xs]

/-- a greater key goes on after the common prefix, with a larger byte if the smaller one goes on too -/
theorem lexLt_lcp : ∀ (p k : Key), lexLt p k = true → ∃ b2 bs', k.drop (lcp k p) = b2 :: bs' ∧
    ∀ b0 rest, p.drop (lcp k p) = b0 :: rest → b0 < b2 := by
  intro p k
  induction k generalizing p with
  | nil => intro h; rw [lexLt_nil_right] at h; cases h
  | cons y ys ih =>
    intro h
    cases p with
    | nil => exact ⟨y, ys, rfl, fun _ _ h => nomatch h⟩
    | cons x xs =>
      rw [lcp]
      rcases lexLt_cons_iff.mp h with hlt | ⟨rfl, h'⟩
      · have hne : ¬ y = x := fun e => by rw [e] at hlt; exact UInt8.lt_irrefl _ hlt
        rw [if_neg hne]
        exact ⟨y, ys, rfl, fun b0 rest h0 => (List.cons.inj h0).1 ▸ hlt⟩
      · rw [if_pos rfl]
        exact ih xs h'

/-! ### `add_suffix` -/

theorem denK_chain (d : Nat → KV) : ∀ bs : Key, denK d (chain bs) [] = [(bs, 0)]
  | [] => by simp [chain, denK, denNodeWith, own]
  | b :: bs => by simp [chain, denK, denNodeWith, own, BNode.empty, denK_chain d bs, lift]

theorem WFStack_cons_chain (u : UNode) (h : u.last.isSome) : ∀ bs : Key, WFStack (u :: chain bs)
  | [] => ⟨h, rfl⟩
  | _ :: bs => ⟨h, WFStack_cons_chain _ rfl bs⟩

theorem pathKey_chain : ∀ bs : Key, pathKey (chain bs) = bs
  | [] => by simp [chain, pathKey]
  | b :: bs => by simp [chain, pathKey, pathKey_chain bs]

theorem chain_forall (P : UNode → Prop) (h1 : ∀ b, P ⟨BNode.empty, some (b, 0)⟩)
    (h2 : P ⟨⟨true, 0, []⟩, none⟩) : ∀ bs : Key, ∀ u ∈ chain bs, P u
  | [], u, hu => by simp only [chain, List.mem_singleton] at hu; subst hu; exact h2
  | b :: bs, u, hu => by
    simp only [chain, List.mem_cons] at hu
    rcases hu with rfl | hu
    · exact h1 b
    · exact chain_forall P h1 h2 bs u hu

theorem addSuffix_snoc (front : List UNode) (top : UNode) (b : UInt8) (bs : Key) (out : Nat) :
    addSuffix (front ++ [top]) (b :: bs) out = front ++ { top with last := some (b, out) } :: chain bs := by
  induction front with
  | nil => simp [addSuffix]
  | cons u front ih =>
    cases front with
    | nil => simp only [List.cons_append, List.nil_append, addSuffix] at ih ⊢
    | cons v rest => simp only [List.cons_append, addSuffix] at ih ⊢; rw [ih]

theorem stack_split (st : List UNode) (i : Nat) (h : i < st.length) :
    st = st.take i ++ st[i] :: st.drop (i + 1) ∧ (st.take i).length = i := by
  refine ⟨?_, by rw [List.length_take]; omega⟩
  rw [← List.drop_eq_getElem_cons h, List.take_append_drop]

/-! ### unfinished nodes: shape, targets, `freeze` -/

/-- in-node invariant of an unfinished node: frozen inputs strictly increasing and all
smaller than the pending input; nothing frozen yet in a node without pending transition -/
def UShape (u : UNode) : Prop :=
  SortedInputs u.node ∧ (u.node.fin = false → u.node.fout = 0) ∧
    (match u.last with
      | some (b, _) => ∀ t ∈ u.node.trans, t.inp < b
      | none => u.node.trans = [])

def UAddr (s : BState) (u : UNode) : Prop := ∀ t ∈ u.node.trans, AddrOK s t.addr

theorem UAddr.mono {s s' : BState} {u : UNode} (hle : Le s s') (h : UAddr s u) : UAddr s' u :=
  fun t ht => (h t ht).mono hle

theorem mem_freeze {u : UNode} {a : Nat} {t : Tr} :
    t ∈ (u.freeze a).trans ↔ t ∈ u.node.trans ∨ ∃ b o, u.last = some (b, o) ∧ t = ⟨b, o, a⟩ := by
  unfold UNode.freeze
  cases u.last with
  | none => simp
  | some bo =>
    obtain ⟨b, o⟩ := bo
    simp only [List.mem_append, List.mem_singleton, Option.some.injEq, Prod.mk.injEq]
    constructor
    · rintro (h | h)
      · exact Or.inl h
      · exact Or.inr ⟨b, o, ⟨rfl, rfl⟩, h⟩
    · rintro (h | ⟨_, _, ⟨rfl, rfl⟩, h⟩)
      · exact Or.inl h
      · exact Or.inr h

theorem freeze_fin (u : UNode) (a : Nat) : (u.freeze a).fin = u.node.fin ∧ (u.freeze a).fout = u.node.fout := by
  unfold UNode.freeze
  cases u.last with
  | none => exact ⟨rfl, rfl⟩
  | some bo => exact ⟨rfl, rfl⟩

theorem denNodeWith_freeze (d : Nat → KV) (u : UNode) (a : Nat) :
    denNodeWith d (u.freeze a) = denNodeWith d u.node ++
      (match u.last with | none => [] | some (b, o) => lift b o (d a)) := by
  unfold UNode.freeze
  cases hl : u.last with
  | none => simp
  | some bo =>
    obtain ⟨b, o⟩ := bo
    simp [denNodeWith, List.flatMap_append, own]

theorem freeze_nodeOK {s : BState} {u : UNode} {a : Nat} (hs : UShape u) (ha : UAddr s u)
    (haddr : AddrOK s a) : NodeOK s (u.freeze a) := by
  obtain ⟨h1, h2, h3⟩ := hs
  unfold UNode.freeze
  cases hl : u.last with
  | none => exact ⟨h1, h2, ha⟩
  | some bo =>
    obtain ⟨b, o⟩ := bo
    rw [hl] at h3
    refine ⟨?_, h2, ?_⟩
    · unfold SortedInputs
      simp only [List.pairwise_append, List.pairwise_cons, List.mem_singleton]
      refine ⟨h1, ⟨by simp, List.Pairwise.nil⟩, ?_⟩
      intro t ht x hx
      subst hx
      exact h3 t ht
    · intro t ht
      simp only [List.mem_append, List.mem_singleton] at ht
      rcases ht with ht | rfl
      · exact ha t ht
      · exact haddr

theorem denNodeWith_stable {s s' : BState} {n : BNode} (hle : Le s s')
    (h : ∀ t ∈ n.trans, AddrOK s t.addr) :
    denNodeWith (denR s'.out) n = denNodeWith (denR s.out) n :=
  denNodeWith_congr fun t ht => hle.2.2 _ (h t ht).1

theorem denK_stable {s s' : BState} (hle : Le s s') : ∀ (st : List UNode) (k : KV),
    (∀ u ∈ st, UAddr s u) → denK (denR s'.out) st k = denK (denR s.out) st k := by
  intro st
  induction st with
  | nil => intro _ _; rfl
  | cons u st ih =>
    intro k h
    simp only [denK]
    rw [denNodeWith_stable hle (h u (by simp)), ih k (fun w hw => h w (List.mem_cons_of_mem _ hw))]

/-! ### `compile_from` as iterated `pop_freeze`

`compile_from(i)` pops the unfinished nodes below position `i` one by one: the deepest node `v`
(no pending transition) is compiled and its address frozen into its parent `u`. A further
invariant is a motive `M` over (state, unfinished stack) kept by that one step; the stack is the
one the Rust loop holds after the pop, with the address already frozen into the parent (the model
writes `stack` back only at the end). -/

/-- one `pop_freeze`: the popped node was fit to compile, and `compile_spec` says what compiling it did -/
structure PopFacts (s s1 : BState) (n : BNode) (a : Nat) : Prop extends Compiled s n s1 a where
  sinv : SInv s
  node : NodeOK s n

/-- a property of (state, unfinished stack) that one `pop_freeze` keeps and that does not look
at the `last`, `stack`, `len` fields of the state -/
structure PopMotive (M : BState → List UNode → Prop) : Prop where
  frame : ∀ {s : BState} {st : List UNode} (last' : Option Key) (stack' : List UNode) (len' : Nat),
    M s st → M { s with last := last', stack := stack', len := len' } st
  pop : ∀ {s s1 : BState} {pre : List UNode} {u v : UNode} {a : Nat}, u.last.isSome →
    v.last = none → PopFacts s s1 v.node a → M s (pre ++ [u, v]) → M s1 (pre ++ [⟨u.freeze a, none⟩])

theorem PopMotive.trivial : PopMotive fun _ _ => True := ⟨fun _ _ _ h => h, fun _ _ _ h => h⟩

theorem freeze_none_eq {u : UNode} (a : Nat) (h : u.last = none) : (⟨u.freeze a, none⟩ : UNode) = u := by
  obtain ⟨n, l⟩ := u
  cases h
  rfl

/-- what popping `rest` below the node `u` has done: it leaves `s1`, and `a`, the address of the first node of
`rest`, is what gets frozen into `u`, which then spells what `u :: rest` spelled -/
structure Popped (M : BState → List UNode → Prop) (s : BState) (u : UNode) (rest : List UNode)
    (s1 : BState) (a : Nat) : Prop where
  sinv : SInv s1
  le : Le s s1
  last : s1.last = s.last
  len : s1.len = s.len
  node : NodeOK s1 (u.freeze a)
  den : denNodeWith (denR s1.out) (u.freeze a) = denK (denR s.out) (u :: rest) []
  motive : ∀ pre : List UNode, M s (pre ++ u :: rest) → M s1 (pre ++ [⟨u.freeze a, none⟩])

/-- the loop of `compile_from` below a node `u`: `rest` is popped and compiled, deepest node first -/
theorem compileTail_freeze {M : BState → List UNode → Prop} (hM : PopMotive M) :
    ∀ (rest : List UNode) (u : UNode) (s : BState), SInv s → WFStack (u :: rest) →
      (∀ w ∈ u :: rest, UShape w) → (∀ w ∈ u :: rest, UAddr s w) →
      ∃ s1 a, s.compileTail rest = .ok (s1, a) ∧ Popped M s u rest s1 a := by
  intro rest
  induction rest with
  | nil =>
    intro u s hinv hwf hshape haddr
    have hl : u.last = none := hwf
    have hfz : u.freeze NONE_ADDRESS = u.node := by simp [UNode.freeze, hl]
    refine ⟨s, NONE_ADDRESS, rfl, hinv, Le.refl s, rfl, rfl, ?_, ?_, ?_⟩
    · rw [hfz]
      exact ⟨(hshape u (by simp)).1, (hshape u (by simp)).2.1, haddr u (by simp)⟩
    · rw [denNodeWith_freeze, hl]; simp [denK, hl]
    · intro pre hm; rw [freeze_none_eq _ hl]; exact hm
  | cons v rest ih =>
    intro u s hinv hwf hshape haddr
    obtain ⟨hsome, hwf'⟩ := WFStack_cons_cons.mp hwf
    obtain ⟨bo, hbo⟩ := Option.isSome_iff_exists.mp hsome
    obtain ⟨b, o⟩ := bo
    obtain ⟨s1, a1, i1, p⟩ := ih v s hinv hwf'
      (fun w hw => hshape w (List.mem_cons_of_mem _ hw))
      (fun w hw => haddr w (List.mem_cons_of_mem _ hw))
    obtain ⟨s', a, c⟩ := compile_spec p.sinv p.node
    have hle := p.le.trans c.le
    refine ⟨s', a, ?_, c.sinv', hle, by rw [c.last, p.last], by rw [c.len, p.len],
      freeze_nodeOK (hshape u (by simp)) ((haddr u (by simp)).mono hle) c.addr, ?_, ?_⟩
    · -- `pop_empty`: the deepest node has no pending transition
      have hpe : (rest.isEmpty && v.last.isSome) = false := by
        cases rest with
        | nil => simp [show v.last = none from hwf']
        | cons _ _ => rfl
      rw [BState.compileTail, i1]
      simp only [hpe, Bool.false_eq_true, if_false]
      exact c.eq
    · rw [denNodeWith_freeze, hbo]
      simp only
      rw [denNodeWith_stable hle (haddr u (by simp)), c.den, p.den]
      simp only [denK, hbo]
    · intro pre hm
      rw [List.append_cons] at hm
      have := p.motive (pre ++ [u]) hm
      rw [List.append_assoc] at this
      exact hM.pop (v := ⟨v.freeze a1, none⟩) hsome rfl ⟨c, p.sinv, p.node⟩ this

/-- `compile_from(front.length)`; the state `s1` returned still has the old `stack` field -/
theorem compileFrom_freeze {M : BState → List UNode → Prop} (hM : PopMotive M)
    {s : BState} {front popped : List UNode} {top : UNode} (hinv : SInv s)
    (hst : s.stack = front ++ top :: popped) (hwf : WFStack (top :: popped))
    (hshape : ∀ u ∈ top :: popped, UShape u) (haddr : ∀ u ∈ top :: popped, UAddr s u) :
    ∃ s1 a, s.compileFrom front.length = .ok { s1 with stack := front ++ [⟨top.freeze a, none⟩] } ∧
      Popped M s top popped s1 a := by
  obtain ⟨s1, a, i1, p⟩ := compileTail_freeze hM popped top s hinv hwf hshape haddr
  refine ⟨s1, a, ?_, p⟩
  unfold BState.compileFrom
  rw [hst, List.append_cons, List.take_left' (by simp), List.drop_left' (by simp)]
  simp only [i1, List.getLast?_concat, List.dropLast_concat]

/-! ### an accepted call: `Core`, `NewKeyRun`, `Step`, `Inv` -/

/-- the part of the builder invariant that does not mention `last` -/
structure Core (s : BState) (acc : KV) : Prop where
  sinv : SInv s
  wf : WFStack s.stack
  shape : ∀ u ∈ s.stack, UShape u
  addr : ∀ u ∈ s.stack, UAddr s u
  den : denK (denR s.out) s.stack [] = acc
  len : s.len = acc.length

theorem insertOutput_cons (s : BState) (b : UInt8) (bt : Key) (out : Option Nat) :
    s.insertOutput (b :: bt) out =
      if (cps s.stack (b :: bt) (out.getD 0)).1 = (b :: bt).length then
        (if (cps s.stack (b :: bt) (out.getD 0)).2.1 ≠ 0 then .error (.panic "assert!(out.is_zero())")
         else .ok { s with stack := (cps s.stack (b :: bt) (out.getD 0)).2.2 })
      else
        match ({ s with stack := (cps s.stack (b :: bt) (out.getD 0)).2.2, len := s.len + 1 } : BState).compileFrom
            (cps s.stack (b :: bt) (out.getD 0)).1 with
        | .error e => .error e
        | .ok s' => .ok { s' with stack := addSuffix s'.stack ((b :: bt).drop (cps s.stack (b :: bt) (out.getD 0)).1)
                                              (cps s.stack (b :: bt) (out.getD 0)).2.1 } := rfl

theorem UShape_setLast {u : UNode} {b : UInt8} {o c : Nat} (hl : u.last = some (b, o)) (h : UShape u) :
    UShape { u with last := some (b, c) } := by
  obtain ⟨h1, h2, h3⟩ := h
  rw [hl] at h3
  exact ⟨h1, h2, h3⟩

theorem UShape_addPrefix {v : UNode} (p : Nat) (h : UShape v) : UShape (v.addPrefix p) := by
  obtain ⟨h1, h2, h3⟩ := h
  refine ⟨?_, ?_, ?_⟩
  · unfold SortedInputs UNode.addPrefix
    simp only [List.pairwise_map]
    exact h1
  · intro hf
    have hf' : v.node.fin = false := hf
    simp [UNode.addPrefix, hf', h2 hf']
  · cases hl : v.last with
    | none =>
      rw [hl] at h3
      simp [UNode.addPrefix, hl, h3]
    | some bo =>
      obtain ⟨b, o⟩ := bo
      rw [hl] at h3
      simp only [UNode.addPrefix, hl, Option.map_some, List.mem_map, forall_exists_index, and_imp]
      intro t t0 ht0 e
      subst e
      exact h3 t0 ht0

theorem UAddr_addPrefix {s : BState} {v : UNode} (p : Nat) (h : UAddr s v) : UAddr s (v.addPrefix p) := by
  intro t ht
  simp only [UNode.addPrefix, List.mem_map] at ht
  obtain ⟨t0, ht0, rfl⟩ := ht
  exact h t0 ht0

theorem UShape_chain (bs : Key) : ∀ u ∈ chain bs, UShape u :=
  chain_forall UShape
    (fun b => ⟨List.Pairwise.nil, fun _ => rfl, by simp [BNode.empty]⟩)
    ⟨List.Pairwise.nil, fun h => by simp at h, rfl⟩ bs

theorem UAddr_chain (s : BState) (bs : Key) : ∀ u ∈ chain bs, UAddr s u :=
  chain_forall (UAddr s)
    (fun b => by intro t ht; simp [BNode.empty] at ht)
    (by intro t ht; simp at ht) bs

/-- The run of `insertOutput` on a key greater than the pending path, phase by phase:
`cps` leaves `front ++ top :: popped` (`front` = the common prefix), `compile_from` pops
`popped` into `top` (state `s1`, address `a`), `add_suffix` hangs the rest `b2 :: bs'` of the
key below `top`. A motive `M` is carried through the pops. -/
structure NewKeyRun (M : BState → List UNode → Prop) (s : BState) (key : Key) (out : Option Nat)
    (i rem : Nat) (front : List UNode) (top : UNode) (popped : List UNode)
    (s1 : BState) (a : Nat) (b2 : UInt8) (bs' : Key) : Prop where
  cps_eq : cps s.stack key (out.getD 0) = (i, rem, front ++ top :: popped)
  len : front.length = i
  fsome : ∀ u ∈ front, u.last.isSome
  wf : WFStack (top :: popped)
  shape : ∀ u ∈ front ++ top :: popped, UShape u
  addr : ∀ u ∈ front ++ top :: popped, UAddr s u
  pathKey : pathKey front = key.take i
  pathOut : pathOut front + rem = out.getD 0
  drop : key.drop i = b2 :: bs'
  /-- the new byte is larger than the one just frozen -/
  gt : ∀ b0 o0, top.last = some (b0, o0) → b0 < b2
  sinv : SInv s1
  le : Le s s1
  last : s1.last = s.last
  len1 : s1.len = s.len + 1
  node : NodeOK s1 (top.freeze a)
  den : denNodeWith (denR s1.out) (top.freeze a) = denK (denR s.out) (top :: popped) []
  motive : ∀ pre : List UNode, M s (pre ++ top :: popped) → M s1 (pre ++ [⟨top.freeze a, none⟩])
  eq : s.insertOutput key out =
    .ok { s1 with stack := front ++ ⟨top.freeze a, some (b2, rem)⟩ :: chain bs' }

theorem insertOutput_new_run {M : BState → List UNode → Prop} (hM : PopMotive M)
    {s : BState} {acc : KV} (hc : Core s acc) (b : UInt8) (bt : Key) (out : Option Nat)
    (hlt : lexLt (pathKey s.stack) (b :: bt) = true) :
    ∃ i rem front top popped s1 a b2 bs',
      NewKeyRun M s (b :: bt) out i rem front top popped s1 a b2 bs' := by
  obtain ⟨hw1, hlen, hpk, hidx, _, p1, p2⟩ := cps_spec (b :: bt) s.stack (out.getD 0) hc.wf
  obtain ⟨b2, bs', hdrop, hgt0⟩ := lexLt_lcp _ _ hlt
  rw [← hidx] at hdrop hgt0
  have hprog : (cps s.stack (b :: bt) (out.getD 0)).1 < (b :: bt).length := by
    rcases Nat.lt_or_ge (cps s.stack (b :: bt) (out.getD 0)).1 (b :: bt).length with h | h
    · exact h
    · rw [List.drop_eq_nil_of_le h] at hdrop; cases hdrop
  have hplen := pathKey_length hc.wf
  have hile : (cps s.stack (b :: bt) (out.getD 0)).1 < (cps s.stack (b :: bt) (out.getD 0)).2.2.length := by
    have := lcp_le_right (b :: bt) (pathKey s.stack)
    rw [hlen, hidx]; omega
  have hshape1 := cps_forall UShape (fun u b o c hl h => UShape_setLast hl h)
    (fun v p h => UShape_addPrefix p h) (b :: bt) s.stack (out.getD 0) hc.wf hc.shape
  have haddr1 := cps_forall (UAddr s) (fun u b o c _ h => h)
    (fun v p h => UAddr_addPrefix p h) (b :: bt) s.stack (out.getD 0) hc.wf hc.addr
  have heq := insertOutput_cons s b bt out
  generalize hr : cps s.stack (b :: bt) (out.getD 0) = r at *
  obtain ⟨i, rem, st1⟩ := r
  simp only at hw1 hidx hprog hlen hile hshape1 haddr1 p1 p2 hpk heq hdrop hgt0
  rw [if_neg (Nat.ne_of_lt hprog)] at heq
  obtain ⟨hsplit, hflen⟩ := stack_split st1 i hile
  generalize st1.take i = front at *
  generalize st1[i] = top at *
  generalize st1.drop (i + 1) = popped at *
  subst hsplit
  obtain ⟨hfsome, hwtp⟩ := WFStack_append.mp hw1
  have hgt : ∀ b0 o0, top.last = some (b0, o0) → b0 < b2 := by
    intro b0 o0 hl
    refine hgt0 b0 (pathKey popped) ?_
    rw [← hpk, pathKey_append,
      List.drop_left' (by rw [pathKey_length_of_isSome hfsome, hflen])]
    simp only [pathKey, hl, List.singleton_append]
  obtain ⟨s1, a, c1, p⟩ :=
    compileFrom_freeze hM
      (s := { s with stack := front ++ top :: popped, len := s.len + 1 }) (front := front)
      (popped := popped) (top := top) ⟨hc.sinv.out, hc.sinv.reg⟩ rfl hwtp
      (fun u hu => hshape1 u (by simp only [List.mem_append]; exact Or.inr hu))
      (fun u hu => haddr1 u (by simp only [List.mem_append]; exact Or.inr hu))
  rw [hflen] at c1
  rw [c1] at heq
  simp only [hdrop, addSuffix_snoc] at heq
  exact ⟨i, rem, front, top, popped, s1, a, b2, bs', hr, hflen, hfsome, hwtp, hshape1, haddr1, p1, p2,
    hdrop, hgt, p.sinv, p.le, p.last, p.len, p.node, p.den, fun pre hm => p.motive pre (hM.frame _ _ _ hm), heq⟩

theorem Core.root {s : BState} {acc : KV} (hc : Core s acc) (h : pathKey s.stack = []) :
    ∃ top, s.stack = [top] ∧ top.last = none ∧ top.node.trans = [] := by
  have hlen := pathKey_length hc.wf
  rw [h] at hlen
  obtain ⟨top, hst⟩ := List.length_eq_one_iff.mp hlen.symm
  have hw := hc.wf
  have := (hc.shape top (by simp [hst])).2.2
  rw [hst] at hw
  rw [show top.last = none from hw] at this
  exact ⟨top, hst, hw, this⟩

theorem insertOutput_dup_eq {s : BState} (hw : WFStack s.stack) {b : UInt8} {bt : Key}
    {out : Option Nat} (hv : out.getD 0 = 0) (hp : pathKey s.stack = b :: bt) :
    s.insertOutput (b :: bt) out = .ok { s with stack := (cps s.stack (b :: bt) (out.getD 0)).2.2 } := by
  rw [insertOutput_cons]
  have hidx := (cps_spec (b :: bt) s.stack (out.getD 0) hw).index
  rw [hp, lcp_self] at hidx
  have p2 := (cps_spec (b :: bt) s.stack (out.getD 0) hw).takeOut
  have hrem : (cps s.stack (b :: bt) (out.getD 0)).2.1 = 0 :=
    Nat.eq_zero_of_add_eq_zero_left (p2.trans hv)
  rw [if_pos hidx, hrem]
  simp only [ne_eq, not_true_eq_false, if_false]

/-- `s.insertOutput k out = .ok s'` on a state with `Core`, by cases. `M` is carried through
the pops of the third case. -/
inductive Step (M : BState → List UNode → Prop) (s : BState) (k : Key) (out : Option Nat)
    (s' : BState) : Prop
  /-- the empty key: `set_root_output` -/
  | empty (hk : k = []) (hp : pathKey s.stack = [])
      (hs : s' = { s with len := 1, stack := setRootOutput s.stack (out.getD 0) })
  /-- set mode, the key just added again: only `cps` runs -/
  | dup (hk : k ≠ []) (hp : pathKey s.stack = k) (ho : out.getD 0 = 0)
      (hs : s' = { s with stack := (cps s.stack k (out.getD 0)).2.2 })
  /-- a greater key: `cps`, `compile_from` below the common prefix, `add_suffix` -/
  | new (i rem : Nat) (front : List UNode) (top : UNode) (popped : List UNode) (s1 : BState)
      (a : Nat) (b2 : UInt8) (bs' : Key) (hk : k ≠ []) (hlt : lexLt (pathKey s.stack) k = true)
      (run : NewKeyRun M s k out i rem front top popped s1 a b2 bs')
      (hs : s' = { s1 with stack := front ++ ⟨top.freeze a, some (b2, rem)⟩ :: chain bs' })

theorem Step.last_eq {M : BState → List UNode → Prop} {s s' : BState} {k : Key} {out : Option Nat}
    (st : Step M s k out s') : s'.last = s.last := by
  cases st with
  | empty _ _ hs => subst hs; rfl
  | dup _ _ _ hs => subst hs; rfl
  | new i rem front top popped s1 a b2 bs' _ _ run hs => subst hs; exact run.last

/-- An `insertOutput` that `check_last_key` lets through never fails: the key is empty on an
empty path, or greater than the path, or (output 0) equal to it. -/
theorem insertOutput_step {M : BState → List UNode → Prop} (hM : PopMotive M) {s : BState}
    {acc : KV} (hc : Core s acc) (k : Key) (out : Option Nat)
    (hnil : k = [] → pathKey s.stack = [])
    (hcons : k ≠ [] → lexLt (pathKey s.stack) k = true ∨ (pathKey s.stack = k ∧ out.getD 0 = 0)) :
    ∃ s', s.insertOutput k out = .ok s' ∧ Step M s k out s' := by
  cases k with
  | nil => exact ⟨_, rfl, .empty rfl (hnil rfl) rfl⟩
  | cons b bt =>
    rcases hcons (by simp) with hlt | ⟨hp, ho⟩
    · obtain ⟨i, rem, front, top, popped, s1, a, b2, bs', r⟩ := insertOutput_new_run hM hc b bt out hlt
      exact ⟨_, r.eq, .new i rem front top popped s1 a b2 bs' (by simp) hlt r rfl⟩
    · exact ⟨_, insertOutput_dup_eq hc.wf ho hp, .dup (by simp) hp ho rfl⟩

/-- what the state spells after an accepted `insertOutput k` with output `v` on the pending
path `path`: the empty key sets the root output (it is accepted on an empty path only, where `acc` is `[]`,
`Inv.acc_nil`, or holds the empty key alone, `Inv.acc_root`), a repeated key changes nothing, a greater key is appended -/
def stepAcc (acc : KV) (path k : Key) (v : Nat) : KV :=
  if k = [] then [([], v)] else if path = k then acc else acc ++ [(k, v)]

theorem stepAcc_new {acc : KV} {path k : Key} (v : Nat) (hnil : k = [] → acc = [])
    (hne : k ≠ [] → path ≠ k) : stepAcc acc path k v = acc ++ [(k, v)] := by
  unfold stepAcc
  by_cases hk : k = []
  · rw [if_pos hk, hnil hk, hk]; rfl
  · rw [if_neg hk, if_neg (hne hk)]

theorem stepAcc_dup {acc : KV} {k : Key} (v : Nat) (hk : k ≠ []) : stepAcc acc k k v = acc := by
  unfold stepAcc; rw [if_neg hk, if_pos rfl]

theorem Step.core {M : BState → List UNode → Prop} {s s' : BState} {acc : KV} {k : Key}
    {out : Option Nat} (hc : Core s acc) (st : Step M s k out s') :
    Core s' (stepAcc acc (pathKey s.stack) k (out.getD 0)) ∧ pathKey s'.stack = k := by
  cases st with
  | empty hk hp hs =>
    subst hk hs
    obtain ⟨top, hst, hl, htr⟩ := hc.root hp
    rw [stepAcc, if_pos rfl]
    show Core { s with len := 1, stack := setRootOutput s.stack (out.getD 0) } _ ∧
      pathKey (setRootOutput s.stack (out.getD 0)) = []
    rw [hst]
    refine ⟨⟨⟨hc.sinv.out, hc.sinv.reg⟩, hl, ?_, ?_, ?_, rfl⟩, by simp [setRootOutput, pathKey, hl]⟩
    · intro u hu
      simp only [setRootOutput, List.mem_singleton] at hu
      subst hu
      exact ⟨by simp [SortedInputs, htr], by simp, by simp [hl, htr]⟩
    · intro u hu
      simp only [setRootOutput, List.mem_singleton] at hu
      subst hu
      intro t ht
      simp [htr] at ht
    · simp [setRootOutput, denK, hl, denNodeWith, own, htr]
  | dup hk hp ho hs =>
    subst hs
    rw [hp, stepAcc_dup _ hk]
    refine ⟨⟨⟨hc.sinv.out, hc.sinv.reg⟩, (cps_spec k s.stack (out.getD 0) hc.wf).wf,
      cps_forall UShape (fun u b o c hl h => UShape_setLast hl h)
        (fun v p h => UShape_addPrefix p h) k s.stack (out.getD 0) hc.wf hc.shape,
      cps_forall (UAddr s) (fun u b o c _ h => h)
        (fun v p h => UAddr_addPrefix p h) k s.stack (out.getD 0) hc.wf hc.addr, ?_, hc.len⟩, ?_⟩
    · show denK (denR s.out) _ [] = acc
      rw [(cps_spec k s.stack (out.getD 0) hc.wf).den, hc.den]
    · show pathKey _ = _
      rw [(cps_spec k s.stack (out.getD 0) hc.wf).path, hp]
  | new i rem front top popped s1 a b2 bs' hk hlt r hs =>
    subst hs
    rw [stepAcc_new _ (fun h => absurd h hk)
      (fun _ h => by rw [h, lexLt_irrefl] at hlt; cases hlt)]
    have hden := (cps_spec k s.stack (out.getD 0) hc.wf).den (denR s.out) []
    rw [r.cps_eq] at hden
    simp only at hden
    have hkey : k.take i ++ b2 :: bs' = k := by rw [← r.drop, List.take_append_drop]
    have haddrF : ∀ u ∈ front, UAddr s u := fun u hu => r.addr u (List.mem_append_left _ hu)
    refine ⟨⟨⟨r.sinv.out, r.sinv.reg⟩, ?_, ?_, ?_, ?_, ?_⟩, ?_⟩
    · exact WFStack_append.mpr ⟨r.fsome, WFStack_cons_chain _ rfl _⟩
    · intro u hu
      simp only [List.mem_append, List.mem_cons] at hu
      rcases hu with hu | rfl | hu
      · exact r.shape u (List.mem_append_left _ hu)
      · refine ⟨r.node.1, r.node.2.1, fun t ht => ?_⟩
        have hst := (r.shape top (by simp)).2.2
        rcases mem_freeze.mp ht with ht | ⟨b0, o0, hl, rfl⟩
        · cases hl : top.last with
          | none => rw [hl] at hst; rw [hst] at ht; cases ht
          | some bo => rw [hl] at hst; exact UInt8.lt_trans (hst t ht) (r.gt bo.1 bo.2 hl)
        · exact r.gt b0 o0 hl
      · exact UShape_chain bs' u hu
    · intro u hu
      simp only [List.mem_append, List.mem_cons] at hu
      rcases hu with hu | rfl | hu
      · exact (haddrF u hu).mono r.le
      · exact r.node.2.2
      · exact UAddr_chain _ bs' u hu
    · -- the fresh chain spells one entry `(b2 :: bs', rem)` at the bottom of `top`; `denK_snoc` moves
      -- it out through `front` as `(pathKey front ++ b2 :: bs', pathOut front + rem) = (k, out)`;
      -- what is left is what the stack spelled before `cps` (`hden`), and `cps` changes nothing
      show denK (denR s1.out) (front ++ _ :: chain bs') [] = _
      rw [denK_append]
      simp only [denK, denK_chain]
      have hl : lift b2 rem [(bs', 0)] = [(b2 :: bs', rem)] := by simp [lift]
      rw [r.den, hl, denK_snoc _ front r.fsome, denK_stable r.le front _ haddrF, ← denK_append, hden,
        hc.den, r.pathKey, hkey, r.pathOut]
    · show s1.len = _
      rw [r.len1]; simp [hc.len]
    · show pathKey (front ++ _ :: chain bs') = _
      rw [pathKey_append, r.pathKey]
      simp only [pathKey, pathKey_chain, List.singleton_append]
      exact hkey

/-- the builder invariant between public calls: the state stores exactly `acc` (`Core`), the stack
path is the last accepted key, and that is the last key of `acc` -/
structure Inv (s : BState) (acc : KV) : Prop where
  core : Core s acc
  path : pathKey s.stack = s.last.getD []
  last : s.last = acc.getLast?.map (·.1)

theorem Core_setLast {s : BState} {acc : KV} (h : Core s acc) (l : Option Key) :
    Core { s with last := l } acc :=
  ⟨⟨h.sinv.out, h.sinv.reg⟩, h.wf, h.shape, h.addr, h.den, h.len⟩

theorem Inv_new (rows cols : Nat) : Inv (BState.new rows cols) [] := by
  refine ⟨⟨⟨⟨rfl, rfl⟩, RegSound_new _ _ _⟩, rfl, ?_, ?_, ?_, rfl⟩, rfl, rfl⟩
  · intro u hu
    simp only [BState.new, List.mem_singleton] at hu
    subst hu
    exact ⟨List.Pairwise.nil, fun _ => rfl, rfl⟩
  · intro u hu
    simp only [BState.new, List.mem_singleton] at hu
    subst hu
    intro t ht
    simp [BNode.empty] at ht
  · simp [BState.new, denK, denNodeWith, own, BNode.empty]

/-- The step starts from `{ s with last := some k }`: `check_last_key` has written `last` by the
time `insert_output` runs. -/
theorem step_inv {M : BState → List UNode → Prop} {s s' : BState} {acc : KV} {k : Key}
    {out : Option Nat} (h : Inv s acc) (st : Step M { s with last := some k } k out s') :
    Inv s' (stepAcc acc (s.last.getD []) k (out.getD 0)) := by
  obtain ⟨hc, hp⟩ := st.core (Core_setLast h.core (some k))
  refine ⟨h.path ▸ hc, by rw [hp, st.last_eq]; rfl, ?_⟩
  rw [st.last_eq]
  show some k = _
  unfold stepAcc
  by_cases hk : k = []
  · subst hk; rfl
  · rw [if_neg hk]
    split
    · rename_i hpk
      rw [← h.last]
      cases hl : s.last with
      | none => rw [hl] at hpk; exact absurd hpk.symm hk
      | some l => rw [hl] at hpk; exact congrArg some hpk.symm
    · simp

/-- what `check_last_key` lets through, seen from the pending path -/
theorem Inv.accepted {s : BState} {acc : KV} (h : Inv s acc) {k : Key} {out : Option Nat}
    (hle : ∀ last, s.last = some last → lexLt last k = true ∨ (last = k ∧ out.getD 0 = 0)) :
    (k = [] → pathKey s.stack = []) ∧
      (k ≠ [] → lexLt (pathKey s.stack) k = true ∨ (pathKey s.stack = k ∧ out.getD 0 = 0)) := by
  rw [h.path]
  cases hl : s.last with
  | none =>
    refine ⟨fun _ => rfl, fun hk => Or.inl ?_⟩
    cases k with
    | nil => exact absurd rfl hk
    | cons b bt => rfl
  | some last =>
    refine ⟨fun hk => ?_, fun _ => hle last hl⟩
    rcases hle last hl with h1 | ⟨h1, _⟩
    · rw [hk, lexLt_nil_right] at h1; cases h1
    · rw [h1, hk]; rfl

theorem insert_ok {M : BState → List UNode → Prop} (hM : PopMotive M) {s : BState} {acc : KV}
    (h : Inv s acc) (k : Key) (v : Nat) (hlt : ∀ last, s.last = some last → lexLt last k = true) :
    ∃ s', s.insert k v = .ok s' ∧ Step M { s with last := some k } k (some v) s' := by
  have hacc := h.accepted (out := some v) fun last hl => Or.inl (hlt last hl)
  obtain ⟨s', e, st⟩ := insertOutput_step hM (Core_setLast h.core (some k)) k (some v) hacc.1 hacc.2
  exact ⟨s', insert_ok_iff.mpr ⟨hlt, e⟩, st⟩

theorem add_ok {M : BState → List UNode → Prop} (hM : PopMotive M) {s : BState} {acc : KV}
    (h : Inv s acc) (k : Key) (hle : ∀ last, s.last = some last → lexLe last k = true) :
    ∃ s', s.add k = .ok s' ∧ Step M { s with last := some k } k none s' := by
  have hacc := h.accepted (out := none) fun last hl =>
    (lexLe_iff.mp (hle last hl)).imp id fun e => ⟨e, rfl⟩
  obtain ⟨s', e, st⟩ := insertOutput_step hM (Core_setLast h.core (some k)) k none hacc.1 hacc.2
  exact ⟨s', add_ok_iff.mpr ⟨hle, e⟩, st⟩

theorem insert_step {M : BState → List UNode → Prop} (hM : PopMotive M) {s s' : BState} {acc : KV}
    (h : Inv s acc) {k : Key} {v : Nat} (hi : s.insert k v = .ok s') :
    Step M { s with last := some k } k (some v) s' := by
  obtain ⟨s'', e, st⟩ := insert_ok hM h k v (insert_ok_lt hi)
  rw [hi] at e; cases e
  exact st

theorem add_step {M : BState → List UNode → Prop} (hM : PopMotive M) {s s' : BState} {acc : KV}
    (h : Inv s acc) {k : Key} (ha : s.add k = .ok s') :
    Step M { s with last := some k } k none s' := by
  obtain ⟨s'', e, st⟩ := add_ok hM h k (add_ok_le ha)
  rw [ha] at e; cases e
  exact st

theorem Inv.acc_nil {s : BState} {acc : KV} (h : Inv s acc) (hl : s.last = none) : acc = [] := by
  have := h.last
  rw [hl] at this
  cases hacc : acc.getLast? with
  | none => exact List.getLast?_eq_none_iff.mp hacc
  | some x => rw [hacc] at this; cases this

theorem Inv.acc_root {s : BState} {acc : KV} (h : Inv s acc) (hl : s.last = some [])
    (hg : acc.getLast? = some ([], 0)) : acc = [([], 0)] := by
  obtain ⟨top, hst, hlt, htr⟩ := h.core.root (by rw [h.path, hl]; rfl)
  have hden := h.core.den
  rw [hst] at hden
  simp only [denK, hlt, denNodeWith, htr, List.flatMap_nil, List.append_nil, own] at hden
  rw [← hden] at hg ⊢
  split at hg
  · simp only [List.getLast?_singleton, Option.some.injEq, Prod.mk.injEq, true_and] at hg
    rw [if_pos ‹_›, hg]
  · simp at hg

theorem step_inv_new {M : BState → List UNode → Prop} {s s' : BState} {acc : KV} {k : Key}
    {out : Option Nat} (h : Inv s acc) (st : Step M { s with last := some k } k out s')
    (hlt : ∀ last, s.last = some last → lexLt last k = true) :
    Inv s' (acc ++ [(k, out.getD 0)]) := by
  have := step_inv h st
  rwa [stepAcc_new] at this
  · intro hk
    cases hl : s.last with
    | none => exact h.acc_nil hl
    | some last => have := hlt last hl; rw [hk, lexLt_nil_right] at this; cases this
  · intro hk hpk
    cases hl : s.last with
    | none => rw [hl] at hpk; exact hk hpk.symm
    | some last =>
      rw [hl] at hpk
      have := hlt last hl
      rw [show last = k from hpk, lexLt_irrefl] at this; cases this

theorem insert_inv {s s' : BState} {acc : KV} (h : Inv s acc) {k : Key} {v : Nat}
    (hi : s.insert k v = .ok s') : Inv s' (acc ++ [(k, v)]) :=
  step_inv_new h (insert_step PopMotive.trivial h hi) (insert_ok_lt hi)

/-! ### `into_inner` -/

/-- `finish` on a state with `Core`: `compile_from(0)` pops everything into the root (state `s1`,
whose `stack` field is still the old one), then the root is compiled. `M` is carried through
the pops. -/
structure FinishRun (M : BState → List UNode → Prop) (s : BState) (acc : KV) (top : UNode)
    (popped : List UNode) (s1 : BState) (a : Nat) (s' : BState) (root : Nat) : Prop where
  stack_eq : s.stack = top :: popped
  addr : ∀ u ∈ top :: popped, UAddr s u
  motive : ∀ pre : List UNode, M s (pre ++ top :: popped) → M s1 (pre ++ [⟨top.freeze a, none⟩])
  den : denNodeWith (denR s1.out) (top.freeze a) = acc
  comp : PopFacts { s1 with stack := [⟨top.freeze a, none⟩] } s' (top.freeze a) root
  len : s'.len = s.len
  eq : s.finish = .ok (s', root)

theorem finish_run {M : BState → List UNode → Prop} (hM : PopMotive M) {s : BState} {acc : KV}
    (h : Core s acc) : ∃ top popped s1 a s' root, FinishRun M s acc top popped s1 a s' root := by
  obtain ⟨top, popped, hst⟩ : ∃ top popped, s.stack = top :: popped := by
    cases hs : s.stack with
    | nil => have := h.wf; rw [hs] at this; exact absurd this id
    | cons t p => exact ⟨t, p, rfl⟩
  have haddr : ∀ u ∈ top :: popped, UAddr s u := fun u hu => h.addr u (hst ▸ hu)
  obtain ⟨s1, a, c1, p⟩ :=
    compileFrom_freeze hM (front := []) h.sinv (by simpa using hst) (hst ▸ h.wf)
      (fun u hu => h.shape u (hst ▸ hu)) haddr
  have hinv1 : SInv { s1 with stack := [⟨top.freeze a, none⟩] } := ⟨p.sinv.out, p.sinv.reg⟩
  obtain ⟨s', root, d⟩ := compile_spec hinv1 (n := top.freeze a) p.node
  refine ⟨top, popped, s1, a, s', root, hst, haddr, p.motive, by rw [p.den, ← hst, h.den],
    ⟨d, hinv1, p.node⟩, by rw [d.len]; exact p.len, ?_⟩
  unfold BState.finish
  simp only [List.length_nil] at c1
  rw [c1]
  simp only [List.nil_append, Option.isSome_none, Bool.false_eq_true, if_false]
  exact d.eq

theorem finish_ok {s : BState} {acc : KV} (h : Core s acc) : ∃ s' root, s.finish = .ok (s', root) :=
  let ⟨_, _, _, _, s', root, r⟩ := finish_run PopMotive.trivial h
  ⟨s', root, r.eq⟩

/-- the state `finish` leaves: the root spells what the stack spelt -/
structure FinishSpec (s s' : BState) (root : Nat) (acc : KV) : Prop where
  sinv : SInv s'
  addr : AddrOK s' root
  den : denR s'.out root = acc
  len : s'.len = s.len

theorem finish_spec {s s' : BState} {acc : KV} {root : Nat} (h : Core s acc)
    (hf : s.finish = .ok (s', root)) : FinishSpec s s' root acc := by
  obtain ⟨top, popped, s1, a, s'', root', r⟩ := finish_run PopMotive.trivial h
  obtain ⟨rfl, rfl⟩ : s'' = s' ∧ root' = root := by simpa [r.eq] using hf
  exact ⟨r.comp.sinv', r.comp.addr, by rw [r.comp.den, r.den], r.len⟩

/-! ### whole builds: `insertAll`, `addAll` on sorted input -/

def insertAll (s : BState) : KV → Except BErr BState
  | [] => .ok s
  | kv :: rest =>
    match s.insert kv.1 kv.2 with
    | .error e => .error e
    | .ok s' => insertAll s' rest

def addAll (s : BState) : List Key → Except BErr BState
  | [] => .ok s
  | k :: rest =>
    match s.add k with
    | .error e => .error e
    | .ok s' => addAll s' rest

theorem insertAll_cons_ok {s s' : BState} {kv : Key × Nat} {rest : KV} :
    insertAll s (kv :: rest) = .ok s' ↔ ∃ s1, s.insert kv.1 kv.2 = .ok s1 ∧ insertAll s1 rest = .ok s' := by
  simp only [insertAll]
  cases s.insert kv.1 kv.2 with
  | error e => simp
  | ok s1 => simp

theorem addAll_cons_ok {s s' : BState} {k : Key} {rest : List Key} :
    addAll s (k :: rest) = .ok s' ↔ ∃ s1, s.add k = .ok s1 ∧ addAll s1 rest = .ok s' := by
  simp only [addAll]
  cases s.add k with
  | error e => simp
  | ok s1 => simp

theorem insertAll_preserves {P : BState → Prop} : ∀ (kvs : KV)
    (_ : ∀ kv ∈ kvs, ∀ {s s' : BState}, P s → s.insert kv.1 kv.2 = .ok s' → P s')
    {s s' : BState}, P s → insertAll s kvs = .ok s' → P s' := by
  intro kvs
  induction kvs with
  | nil => intro _ s s' hP e; cases e; exact hP
  | cons kv rest ih =>
    intro hstep _ _ hP e
    obtain ⟨s1, e1, e2⟩ := insertAll_cons_ok.mp e
    exact ih (fun kv' h => hstep kv' (List.mem_cons_of_mem _ h)) (hstep kv (by simp) hP e1) e2

theorem addAll_preserves {P : BState → Prop}
    (hstep : ∀ {s s' : BState} {k : Key}, P s → s.add k = .ok s' → P s') :
    ∀ (ks : List Key) {s s' : BState}, P s → addAll s ks = .ok s' → P s'
  | [], s, s', hP, e => by cases e; exact hP
  | _ :: rest, _, _, hP, e => by
    obtain ⟨s1, e1, e2⟩ := addAll_cons_ok.mp e
    exact addAll_preserves hstep rest (hstep hP e1) e2

/-- strictly increasing, and greater than the previous key if there is one -/
def SortedAfter : Option Key → KV → Prop
  | _, [] => True
  | last, kv :: rest => (∀ l, last = some l → lexLt l kv.1 = true) ∧ SortedAfter (some kv.1) rest

theorem sortedAfter_of_sortedKV : ∀ (kv : Key × Nat) (rest : KV), SortedKV (kv :: rest) →
    SortedAfter (some kv.1) rest
  | _, [], _ => trivial
  | kv, kv2 :: rest, h => by
    obtain ⟨h1, h2⟩ := h
    refine ⟨?_, sortedAfter_of_sortedKV kv2 rest h2⟩
    intro l hl; cases hl; exact h1

theorem sortedAfter_none {kvs : KV} (h : SortedKV kvs) : SortedAfter none kvs := by
  cases kvs with
  | nil => trivial
  | cons kv rest => exact ⟨fun l hl => (by cases hl), sortedAfter_of_sortedKV kv rest h⟩

theorem Inv.last_snoc {s : BState} {acc : KV} {kv : Key × Nat} (h : Inv s (acc ++ [kv])) :
    s.last = some kv.1 := by rw [h.last]; simp

theorem insertAll_inv : ∀ (kvs : KV) (s : BState) (acc : KV), Inv s acc → SortedAfter s.last kvs →
    ∃ s', insertAll s kvs = .ok s' ∧ Inv s' (acc ++ kvs) := by
  intro kvs
  induction kvs with
  | nil => intro s acc h _; exact ⟨s, rfl, by simpa using h⟩
  | cons kv rest ih =>
    rintro s acc h ⟨hlt, hrest⟩
    obtain ⟨s1, e1, st⟩ := insert_ok PopMotive.trivial h kv.1 kv.2 hlt
    have i1 : Inv s1 (acc ++ [kv]) := step_inv_new h st hlt
    obtain ⟨s', e2, i2⟩ := ih s1 (acc ++ [kv]) i1 (by rw [i1.last_snoc]; exact hrest)
    refine ⟨s', ?_, by simpa using i2⟩
    simp only [insertAll, e1]
    exact e2

example : SortedKV [([], 7), ([1], 5), ([1, 2], 3), ([1, 3], 9), ([2, 3], 1)] := by
  simp [SortedKV, lexLt]

def SortedKeysLe : List Key → Prop
  | [] => True
  | [_] => True
  | a :: b :: rest => lexLe a b = true ∧ SortedKeysLe (b :: rest)

def dedupAfter : Option Key → List Key → List Key
  | _, [] => []
  | last, k :: rest => if last = some k then dedupAfter last rest else k :: dedupAfter (some k) rest

def dedupKeys (ks : List Key) : List Key := dedupAfter none ks

def LeAfter : Option Key → List Key → Prop
  | _, [] => True
  | last, k :: rest => (∀ l, last = some l → lexLe l k = true) ∧ LeAfter (some k) rest

theorem leAfter_of_sorted : ∀ (k : Key) (rest : List Key), SortedKeysLe (k :: rest) →
    LeAfter (some k) rest
  | _, [], _ => trivial
  | k, k2 :: rest, h => by
    obtain ⟨h1, h2⟩ := h
    refine ⟨?_, leAfter_of_sorted k2 rest h2⟩
    intro l hl; cases hl; exact h1

theorem leAfter_none {ks : List Key} (h : SortedKeysLe ks) : LeAfter none ks := by
  cases ks with
  | nil => trivial
  | cons k rest => exact ⟨fun l hl => (by cases hl), leAfter_of_sorted k rest h⟩

def zeroKV (ks : List Key) : KV := ks.map fun k => (k, 0)

theorem addAll_inv : ∀ (ks : List Key) (s : BState) (acc : KV), Inv s acc →
    (∀ kv, acc.getLast? = some kv → kv.2 = 0) → LeAfter s.last ks →
    ∃ s', addAll s ks = .ok s' ∧ Inv s' (acc ++ zeroKV (dedupAfter s.last ks)) := by
  intro ks
  induction ks with
  | nil => intro s acc h _ _; exact ⟨s, rfl, by simpa [dedupAfter, zeroKV] using h⟩
  | cons k rest ih =>
    rintro s acc h hz ⟨hle, hrest⟩
    by_cases hdup : s.last = some k
    · -- `k` repeats the last key: the call is accepted and what is stored stays as it is; for the empty key
      -- this is where `hz` is needed (`add []` sets the root output to 0)
      obtain ⟨s1, e1, st⟩ := add_ok PopMotive.trivial h k hle
      have i1 := step_inv h st
      have hlast : acc.getLast? = some (k, 0) := by
        have := h.last
        rw [hdup] at this
        cases hg : acc.getLast? with
        | none => rw [hg] at this; cases this
        | some kv =>
          rw [hg] at this
          exact congrArg some (Prod.ext (Option.some.inj this).symm (hz kv hg))
      have hacc : stepAcc acc (s.last.getD []) k ((none : Option Nat).getD 0) = acc := by
        rw [hdup]
        cases k with
        | nil => rw [stepAcc, if_pos rfl]; exact (h.acc_root hdup hlast).symm
        | cons b bt => exact stepAcc_dup _ (by simp)
      rw [hacc] at i1
      have hl1 : s1.last = s.last := by rw [i1.last, h.last]
      obtain ⟨s', e2, i2⟩ := ih s1 acc i1 hz (by rw [hl1, hdup]; exact hrest)
      refine ⟨s', ?_, ?_⟩
      · simp only [addAll, e1]; exact e2
      · simp only [dedupAfter, hdup, if_true]
        rw [hl1, hdup] at i2
        exact i2
    · have hlt : ∀ l, s.last = some l → lexLt l k = true := by
        intro l hl
        rcases lexLe_iff.mp (hle l hl) with h1 | h1
        · exact h1
        · subst h1; exact absurd hl hdup
      obtain ⟨s1, e1, st⟩ := add_ok PopMotive.trivial h k hle
      have i1 : Inv s1 (acc ++ [(k, 0)]) := step_inv_new h st hlt
      obtain ⟨s', e2, i2⟩ := ih s1 (acc ++ [(k, 0)]) i1
        (by intro kv hkv; simp at hkv; rw [← hkv]) (by rw [i1.last_snoc]; exact hrest)
      refine ⟨s', ?_, ?_⟩
      · simp only [addAll, e1]; exact e2
      · simp only [dedupAfter, hdup, if_false]
        rw [i1.last_snoc] at i2
        simpa [zeroKV] using i2

example : SortedKeysLe [[], [], [1], [1], [1, 2], [2]] := by simp [SortedKeysLe, lexLe, lexLt]
example : dedupKeys [[], [], [1], [1], [1, 2], [2]] = [[], [1], [1, 2], [2]] := by decide

/-! ### reachable states; what a call returns on them -/

/-- states of a builder between public calls -/
inductive Reachable : BState → Prop
  | new (rows cols : Nat) : Reachable (BState.new rows cols)
  | insert {s s' : BState} (k : Key) (v : Nat) : Reachable s → s.insert k v = .ok s' → Reachable s'
  | add {s s' : BState} (k : Key) : Reachable s → s.add k = .ok s' → Reachable s'

theorem reachable_inv {s : BState} (h : Reachable s) : ∃ acc, Inv s acc := by
  induction h with
  | new rows cols => exact ⟨[], Inv_new rows cols⟩
  | insert k v _ hi ih => obtain ⟨acc, hinv⟩ := ih; exact ⟨_, insert_inv hinv hi⟩
  | add k _ ha ih =>
    obtain ⟨acc, hinv⟩ := ih
    exact ⟨_, step_inv hinv (add_step PopMotive.trivial hinv ha)⟩

/-- How a further invariant `J` is added: give the motive `M` that one pop keeps (`PopMotive`) and show
that one accepted call, as a `Step` carrying `M` through its pops, keeps `J`; `Inv` comes for free.
(Clients: `reachable_RInv` in Proofs/BuildReach.lean, `reachable_ne` in Proofs/Minimal.lean.) -/
theorem Reachable.step_induction {M : BState → List UNode → Prop} (hM : PopMotive M)
    {J : BState → Prop} (hnew : ∀ rows cols, J (BState.new rows cols))
    (hstep : ∀ {s s' : BState} {acc : KV} {k : Key} {out : Option Nat}, Inv s acc → J s →
      Step M { s with last := some k } k out s' → J s') {s : BState} (h : Reachable s) : J s := by
  induction h with
  | new rows cols => exact hnew rows cols
  | insert k v hr hi ih =>
    obtain ⟨acc, hinv⟩ := reachable_inv hr
    exact hstep hinv ih (insert_step hM hinv hi)
  | add k hr ha ih =>
    obtain ⟨acc, hinv⟩ := reachable_inv hr
    exact hstep hinv ih (add_step hM hinv ha)

/-- map mode: on a reachable state `insert` succeeds exactly on a key strictly greater than
the last one; otherwise it returns `DuplicateKey` / `OutOfOrder` and nothing else -/
theorem insert_result {s : BState} (h : Reachable s) (k : Key) (v : Nat) :
    match s.last with
    | none => ∃ s', s.insert k v = .ok s'
    | some last =>
      if lexLt last k then ∃ s', s.insert k v = .ok s'
      else if k = last then s.insert k v = .error (.duplicateKey k)
      else s.insert k v = .error (.outOfOrder last k) := by
  obtain ⟨acc, hinv⟩ := reachable_inv h
  cases hl : s.last with
  | none =>
    obtain ⟨s', e, _⟩ := insert_ok PopMotive.trivial hinv k v (fun l hl' => by rw [hl] at hl'; cases hl')
    exact ⟨s', e⟩
  | some last =>
    simp only
    by_cases hlt : lexLt last k = true
    · rw [if_pos hlt]
      obtain ⟨s', e, _⟩ := insert_ok PopMotive.trivial hinv k v
        (fun l hl' => by rw [hl] at hl'; cases hl'; exact hlt)
      exact ⟨s', e⟩
    · rw [if_neg hlt]
      unfold BState.insert
      rw [checkLastKey_map k hl, if_neg hlt]
      split <;> rfl

/-- set mode: on a reachable state `add` succeeds exactly on a key not smaller than the last
one; otherwise it returns `OutOfOrder` -/
theorem add_result {s : BState} (h : Reachable s) (k : Key) :
    match s.last with
    | none => ∃ s', s.add k = .ok s'
    | some last =>
      if lexLe last k then ∃ s', s.add k = .ok s'
      else s.add k = .error (.outOfOrder last k) := by
  obtain ⟨acc, hinv⟩ := reachable_inv h
  cases hl : s.last with
  | none =>
    obtain ⟨s', e, _⟩ := add_ok PopMotive.trivial hinv k (fun l hl' => by rw [hl] at hl'; cases hl')
    exact ⟨s', e⟩
  | some last =>
    simp only
    by_cases hle : lexLe last k = true
    · rw [if_pos hle]
      obtain ⟨s', e, _⟩ := add_ok PopMotive.trivial hinv k
        (fun l hl' => by rw [hl] at hl'; cases hl'; exact hle)
      exact ⟨s', e⟩
    · rw [if_neg hle]
      unfold BState.add
      rw [checkLastKey_set k hl, if_neg hle]

theorem insert_cases {s : BState} (h : Reachable s) (k : Key) (v : Nat) :
    ((∀ last, s.last = some last → lexLt last k = true) ∧ ∃ s', s.insert k v = .ok s') ∨
    ∃ last, s.last = some last ∧ lexLt last k = false ∧
      (s.insert k v = .error (.duplicateKey k) ∨ s.insert k v = .error (.outOfOrder last k)) := by
  have hr := insert_result h k v
  cases hl : s.last with
  | none => rw [hl] at hr; exact Or.inl ⟨fun _ h' => (nomatch h'), hr⟩
  | some last =>
    rw [hl] at hr
    simp only at hr
    split at hr
    · rename_i hlt
      exact Or.inl ⟨fun _ h' => (Option.some.inj h') ▸ hlt, hr⟩
    · rename_i hlt
      refine Or.inr ⟨last, rfl, by simpa using hlt, ?_⟩
      split at hr
      · exact Or.inl hr
      · exact Or.inr hr

theorem add_cases {s : BState} (h : Reachable s) (k : Key) :
    ((∀ last, s.last = some last → lexLe last k = true) ∧ ∃ s', s.add k = .ok s') ∨
    ∃ last, s.last = some last ∧ lexLe last k = false ∧ s.add k = .error (.outOfOrder last k) := by
  have hr := add_result h k
  cases hl : s.last with
  | none => rw [hl] at hr; exact Or.inl ⟨fun _ h' => (nomatch h'), hr⟩
  | some last =>
    rw [hl] at hr
    simp only at hr
    split at hr
    · rename_i hle
      exact Or.inl ⟨fun _ h' => (Option.some.inj h') ▸ hle, hr⟩
    · rename_i hle
      exact Or.inr ⟨last, rfl, by simpa using hle, hr⟩

theorem IOB.step_error (x : IOB) (e : BErr) : (x.step (.error e)).1 = x := rfl

theorem IOB.insert_error (x : IOB) (k : Key) (v : Nat) (e : BErr) (h : x.b.insert k v = .error e) :
    (x.insert k v).1 = x := by unfold IOB.insert; rw [h]; rfl

theorem IOB.add_error (x : IOB) (k : Key) (e : BErr) (h : x.b.add k = .error e) :
    (x.add k).1 = x := by unfold IOB.add; rw [h]; rfl

end Fst
