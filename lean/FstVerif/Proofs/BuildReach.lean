import FstVerif.Proofs.BuildSide
import FstVerif.Proofs.Reach
/-
A builder invariant (`RInv`): every emitted node is reachable from a transition target
held in the unfinished stack. `compile` keeps it (a node found in the registry or freshly written
reaches all its targets; `covMotive`, lifted by `Reachable.step_induction`), so after `finish` every
emitted node is reachable from the root (`finish_reach`), and therefore lies at or below it
(`finish_le_root`). The namespace `SpecP` is that of the first client, the walk of the independent
parser (Proofs/SpecParseWalk.lean).
-/
namespace Fst
namespace SpecP

/-- every emitted node is reachable from one of the addresses `roots` -/
def Cov (out : List Emit) (roots : List Nat) : Prop :=
  ∀ e ∈ out, ∃ r ∈ roots, ReachFrom (rstore out) r e.addr

def uAddrs (u : UNode) : List Nat := u.node.trans.map (·.addr)
def stackAddrs (st : List UNode) : List Nat := st.flatMap uAddrs

theorem compile_cov {s : BState} {n : BNode} {s' : BState} {a : Nat}
    (h : s.compile n = .ok (s', a)) (hinv : SInv s) (R : List Nat)
    (hc : Cov s.out (R ++ n.trans.map (·.addr))) : Cov s'.out (R ++ [a]) := by
  -- once `n` is stored at `a`, what was reachable from its targets is reachable from `a`
  have key : ∀ out' : List Emit, (∀ p ∈ rstore s.out, p ∈ rstore out') → (a, n) ∈ rstore out' →
      (∀ e ∈ out', e ∈ s.out ∨ e.addr = a) → Cov out' (R ++ [a]) := by
    intro out' hsub hmem hold e he
    rcases hold e he with he | he
    · obtain ⟨r, hr, h1⟩ := hc e he
      have h1' := ReachFrom.mono hsub h1
      rcases List.mem_append.mp hr with hr | hr
      · exact ⟨r, List.mem_append_left _ hr, h1'⟩
      · obtain ⟨t, ht, rfl⟩ := List.mem_map.mp hr
        exact ⟨a, List.mem_append_right _ List.mem_cons_self, ReachFrom.step hmem ht h1'⟩
    · exact ⟨a, List.mem_append_right _ List.mem_cons_self, he ▸ ReachFrom.refl _⟩
  rcases compile_cases h with ⟨he, rfl, _⟩ | ⟨_, reg', hre, rfl⟩ | ⟨_, reg', en, cs, _, _, _, rfl, rfl⟩
  · simp only [isEmptyFinal, Bool.and_eq_true, List.isEmpty_iff, beq_iff_eq] at he
    rw [he.1.2] at hc
    intro e he'
    obtain ⟨r, hr, h1⟩ := hc e he'
    exact ⟨r, by simpa using Or.inl hr, h1⟩
  · exact key s.out (fun _ hp => hp) (entry_found hre hinv.reg).2 fun e he => Or.inl he
  · unfold emitState
    refine key _ (fun p hp => List.mem_cons_of_mem _ hp) List.mem_cons_self fun e he => ?_
    rcases List.mem_cons.mp he with rfl | he
    · exact Or.inr rfl
    · exact Or.inl he

theorem uAddrs_freeze_none {u : UNode} (a : Nat) (hl : u.last = none) :
    (u.freeze a).trans.map (·.addr) = uAddrs u := by
  simp [UNode.freeze, hl, uAddrs]

theorem uAddrs_freeze_some {u : UNode} (a : Nat) (hl : u.last.isSome) :
    (u.freeze a).trans.map (·.addr) = uAddrs u ++ [a] := by
  obtain ⟨bo, hbo⟩ := Option.isSome_iff_exists.mp hl
  simp [UNode.freeze, hbo, uAddrs]

theorem stackAddrs_append (xs ys : List UNode) : stackAddrs (xs ++ ys) = stackAddrs xs ++ stackAddrs ys := by
  simp [stackAddrs]

theorem stackAddrs_cps (key : Key) (stack : List UNode) (out : Nat) (hw : WFStack stack) :
    stackAddrs (cps stack key out).2.2 = stackAddrs stack := by
  revert hw
  refine cps_induct (motive := fun stack key out =>
    stackAddrs (cps stack key out).2.2 = stackAddrs stack) ?_ ?_ key stack out
  · intro stack key out _ _ e; rw [e]
  · intro u v rest b bs out o _ hl _ ih
    rw [cps_step _ _ _ _ _ _ _ hl]
    simp only [stackAddrs, List.flatMap_cons] at ih ⊢
    rw [ih]
    unfold pushed
    split
    · simp [uAddrs, UNode.addPrefix, List.map_map, Function.comp_def]
    · rfl

theorem stackAddrs_chain : ∀ bs : Key, stackAddrs (chain bs) = []
  | [] => rfl
  | b :: bs => by
    have := stackAddrs_chain bs
    simp only [stackAddrs, chain, List.flatMap_cons] at this ⊢
    rw [this]; rfl

/-- reachability from the targets of the stack is kept by a pop: the compiled node reaches its
targets and is itself the new target of its parent -/
theorem covMotive : PopMotive fun s st => Cov s.out (stackAddrs st) where
  frame := fun _ _ _ h => h
  pop := by
    intro s s1 pre u v a hu hv pf hc
    have hfz : stackAddrs (pre ++ [⟨u.freeze a, none⟩]) = stackAddrs pre ++ uAddrs u ++ [a] := by
      rw [stackAddrs_append, List.append_assoc, ← uAddrs_freeze_some a hu]
      simp [stackAddrs, uAddrs]
    rw [hfz]
    refine compile_cov pf.eq pf.sinv _ ?_
    simpa [stackAddrs, uAddrs, List.append_assoc] using hc

/-- the invariant: every emitted node is reachable from a transition of the unfinished stack -/
def RInv (s : BState) : Prop := Cov s.out (stackAddrs s.stack)

theorem stackAddrs_snoc_chain (front : List UNode) (n : BNode) (l : Option (UInt8 × Nat)) (bs : Key) :
    stackAddrs (front ++ ⟨n, l⟩ :: chain bs) = stackAddrs (front ++ [⟨n, none⟩]) := by
  rw [stackAddrs_append, stackAddrs_append]
  show _ ++ (uAddrs ⟨n, l⟩ ++ stackAddrs (chain bs)) = _ ++ (uAddrs ⟨n, none⟩ ++ [])
  rw [stackAddrs_chain]; rfl

theorem step_RInv {s s' : BState} {acc : KV} {k : Key} {out : Option Nat} (hc : Core s acc)
    (hR : RInv s) (st : Step (fun s st => Cov s.out (stackAddrs st)) s k out s') : RInv s' := by
  have hcps := stackAddrs_cps k s.stack (out.getD 0) hc.wf
  cases st with
  | empty _ _ hs =>
    subst hs
    show Cov s.out (stackAddrs (setRootOutput s.stack (out.getD 0)))
    have : stackAddrs (setRootOutput s.stack (out.getD 0)) = stackAddrs s.stack := by
      cases s.stack <;> rfl
    rw [this]; exact hR
  | dup _ _ _ hs =>
    subst hs
    show Cov s.out (stackAddrs (cps s.stack k (out.getD 0)).2.2)
    rw [hcps]; exact hR
  | new i rem front top popped s1 a b2 bs' _ _ run hs =>
    subst hs
    rw [run.cps_eq] at hcps
    show Cov s1.out (stackAddrs (front ++ ⟨top.freeze a, some (b2, rem)⟩ :: chain bs'))
    rw [stackAddrs_snoc_chain]
    exact run.motive front (hcps.symm ▸ hR)

theorem reachable_RInv {s : BState} (h : Reachable s) : RInv s :=
  h.step_induction covMotive (fun _ _ e he => by simp [BState.new] at he)
    fun {_ _ _ k _} hinv hR st => step_RInv (Core_setLast hinv.core (some k)) hR st

end SpecP
open SpecP

/-- after `finish`, every emitted node is reachable from the root address -/
theorem finish_reach {s s' : BState} {root : Nat} (hr : Reachable s) (hf : s.finish = .ok (s', root)) :
    ∀ e ∈ s'.out, ReachFrom (storeOf s') root e.addr := by
  obtain ⟨acc, hinv⟩ := reachable_inv hr
  obtain ⟨top, popped, s1, a, s'', root', r⟩ := finish_run covMotive hinv.core
  rw [r.eq] at hf; cases hf
  have hc1 := r.motive [] (by rw [List.nil_append, ← r.stack_eq]; exact reachable_RInv hr)
  have := compile_cov r.comp.eq r.comp.sinv [] (by simpa [stackAddrs, uAddrs] using hc1)
  intro e he
  obtain ⟨x, hx, h1⟩ := this e he
  rw [List.nil_append, List.mem_singleton] at hx
  exact ReachFrom.mono (fun p hp => mem_storeOf.mpr hp) (hx ▸ h1)

theorem finish_le_root {s s' : BState} {root : Nat} (hr : Reachable s)
    (hf : s.finish = .ok (s', root)) : ∀ e ∈ s'.out, e.addr ≤ root := by
  obtain ⟨acc, hinv⟩ := reachable_inv hr
  exact fun e he => (finish_reach hr hf e he).le (layout_of_SInv (finish_spec hinv.core hf).sinv).good

end Fst
