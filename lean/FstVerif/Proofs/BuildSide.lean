import FstVerif.Proofs.Build
/-
What else holds of a build besides `Inv`, and the whole-build results that put it together.

`Layout`: the emitted bytes lie one node after the other. An invariant that reads only `out`, `reg`,
`count`, `lastAddr` is an `EInv` (induction over the model functions, no `Step`). A node-wise property
of emitted and unfinished nodes is a `Pass` plus one lemma on `Step`, lifted to a build by
`insertAll_preserves`: tightness (`step_tight`), the value bound (`step_bound`).
Results: `finish_state`, `build_map` / `build_set` and their projections `build_ok`, `build_tight`,
`build_ok_set`; `build_layout` / `build_layout_finish`.
-/
namespace Fst
open BuildP

/-! ### layout of the emitted bytes -/

def totalSize (es : List Emit) : Nat := (es.map Emit.size).sum

/-- forward description of the emitted nodes, oldest first: `start` is the address of the
first byte of the next node, `last` the address of the previously written node -/
def LayoutF : Nat → Nat → List Emit → Prop
  | _, _, [] => True
  | start, last, e :: es =>
      compileNodeC e.node last start = some e.chunks ∧ 1 ≤ e.size ∧ e.addr = start + e.size - 1 ∧
      (∀ t ∈ e.node.trans, t.addr < start) ∧
      LayoutF (start + e.size) e.addr es

/-- `OutOK` describes the nodes newest first, `LayoutF` oldest first: what was emitted before
position `c` goes in front of any layout that continues from `c` -/
theorem OutOK.layoutF : ∀ {es : List Emit} {c l : Nat}, OutOK es c l → ∀ tail : List Emit,
    LayoutF c l tail → LayoutF 16 NONE_ADDRESS (es.reverse ++ tail) := by
  intro es
  induction es with
  | nil =>
    rintro c l ⟨rfl, rfl⟩ tail ht
    exact ht
  | cons e es ih =>
    rintro c l ⟨c0, l0, h0, g1, g2, g3, rfl, rfl, _, _, _, g6⟩ tail ht
    rw [List.reverse_cons, List.append_assoc]
    exact ih h0 (e :: tail) ⟨g1, g2, g3, fun t ht => (g6 t ht).1, ht⟩

theorem layoutF_of_OutOK : ∀ {es : List Emit} {c l : Nat}, OutOK es c l →
    LayoutF 16 NONE_ADDRESS es.reverse ∧ c = 16 + totalSize es ∧
      l = (es.head?.map (·.addr)).getD NONE_ADDRESS := by
  intro es
  induction es with
  | nil => intro c l h; exact ⟨trivial, by simp [totalSize, h.1], by simp [h.2]⟩
  | cons e es ih =>
    intro c l h
    refine ⟨by simpa using h.layoutF [] trivial, ?_, ?_⟩
    · obtain ⟨c0, l0, h0, _, _, _, g4, _⟩ := h
      show c = 16 + (e.size + totalSize es)
      rw [g4, (ih h0).2.1, Nat.add_assoc, Nat.add_comm e.size]
    · obtain ⟨c0, l0, _, _, _, _, _, g5, _⟩ := h
      simp [g5]

theorem OutOK_increasing : ∀ {es : List Emit} {c l : Nat}, OutOK es c l →
    es.Pairwise (fun a b => b.addr < a.addr) := by
  intro es
  induction es with
  | nil => intro _ _ _; exact List.Pairwise.nil
  | cons e es ih =>
    rintro c l ⟨c0, l0, h0, _, g2, g3, _⟩
    rw [List.pairwise_cons]
    refine ⟨?_, ih h0⟩
    intro e' he'
    rw [g3]
    exact Nat.lt_of_lt_of_le (h0.storeOK.addr _ (mem_rstore he')).2 (lastByte_bounds c0 g2).1

/-- everything the byte layer needs to know about the emitted nodes of a state -/
structure Layout (s : BState) : Prop where
  /-- each emit is the `compileNodeC` output at its position, addresses are last bytes -/
  nodes : LayoutF 16 NONE_ADDRESS s.out.reverse
  count : s.count = 16 + totalSize s.out
  lastAddr : s.lastAddr = (s.out.head?.map (·.addr)).getD NONE_ADDRESS
  /-- emitted addresses strictly increase in emission order and lie in `[16, count)` -/
  increasing : s.out.reverse.Pairwise (fun a b => a.addr < b.addr)
  range : ∀ e ∈ s.out, 16 ≤ e.addr ∧ e.addr < s.count
  shape : ∀ e ∈ s.out, e.node.trans.length ≤ 256 ∧ SortedInputs e.node ∧
    isEmptyFinal e.node = false ∧ (e.node.fin = false → e.node.fout = 0)
  /-- targets are 0 or an earlier emitted address -/
  targets : ∀ e ∈ s.out, ∀ t ∈ e.node.trans, t.addr < e.addr ∧
    (t.addr = 0 ∨ ∃ e' ∈ s.out, e'.addr = t.addr ∧ e'.addr < e.addr)
  good : GoodStore (storeOf s) (denOf (storeOf s))

theorem layout_of_SInv {s : BState} (h : SInv s) : Layout s := by
  obtain ⟨l1, l2, l3⟩ := layoutF_of_OutOK h.out
  have hmem : ∀ e ∈ s.out, (e.addr, e.node) ∈ rstore s.out := fun _ he => mem_rstore he
  refine ⟨l1, l2, l3, ?_, ?_, ?_, ?_, goodStore_of_OutOK h.out⟩
  · rw [List.pairwise_reverse]; exact OutOK_increasing h.out
  · intro e he; exact h.out.storeOK.addr _ (hmem e he)
  · intro e he
    obtain ⟨n1, n2, n3, _⟩ := h.out.storeOK.node e.addr e.node (hmem e he)
    exact ⟨sortedInputs_length n1, n1, n2, n3⟩
  · intro e he t ht
    obtain ⟨_, _, _, n4⟩ := h.out.storeOK.node e.addr e.node (hmem e he)
    obtain ⟨t1, t2⟩ := n4 t ht
    refine ⟨t1, ?_⟩
    rcases t2 with t0 | ⟨m, hm⟩
    · exact Or.inl t0
    · obtain ⟨e', he', ha, _⟩ := mem_rstore_iff.mp hm
      exact Or.inr ⟨e', he', ha, by omega⟩

theorem build_layout {s : BState} (h : Reachable s) : Layout s := by
  obtain ⟨acc, hinv⟩ := reachable_inv h
  exact layout_of_SInv hinv.core.sinv

/-- `finish` always succeeds on a reachable state, and the state after it is laid out too -/
theorem build_layout_finish {s : BState} (h : Reachable s) :
    ∃ s' root, s.finish = .ok (s', root) ∧ Layout s' ∧ s'.len = s.len ∧
      (root = 0 ∨ ∃ e ∈ s'.out, e.addr = root) := by
  obtain ⟨acc, hinv⟩ := reachable_inv h
  obtain ⟨s', root, hf⟩ := finish_ok hinv.core
  have F := finish_spec hinv.core hf
  refine ⟨s', root, hf, layout_of_SInv F.sinv, F.len, ?_⟩
  rcases F.addr.2 with h0 | ⟨n, hn⟩
  · exact Or.inl h0
  · obtain ⟨e, he, ha, _⟩ := mem_rstore_iff.mp hn
    exact Or.inr ⟨e, he, ha⟩

theorem reachable_insertAll : ∀ (kvs : KV) {s s' : BState}, Reachable s → insertAll s kvs = .ok s' →
    Reachable s' :=
  fun kvs => insertAll_preserves kvs fun kv _ _ _ h hi => .insert kv.1 kv.2 h hi

theorem reachable_addAll : ∀ (ks : List Key) {s s' : BState}, Reachable s → addAll s ks = .ok s' →
    Reachable s' :=
  addAll_preserves fun h ha => .add _ h ha

example : Reachable (BState.new 3 2) := Reachable.new 3 2

namespace MinP

/-! ### properties of the emitted part of a state that only `compile` can change

An `EInv` is carried through every public call by induction over the model functions. Its instances:
the cache is complete while nothing was evicted (`Full_einv`) and geometry and eviction counter
(`reg_einv`), both in Proofs/Minimal.lean, whose namespace `MinP` this is; the emitted list only grows
(`SinkProofs.outExt_einv`, Proofs/Sink.lean); the cache shape (`Bounds.regShape_einv`,
Proofs/BoundsBuild.lean). -/

structure EInv (I : BState → Prop) : Prop where
  frame : ∀ {s : BState}, I s → ∀ (s' : BState), s'.out = s.out → s'.reg = s.reg →
    s'.count = s.count → s'.lastAddr = s.lastAddr → I s'
  compile : ∀ {s s' : BState} {n : BNode} {a : Nat}, s.compile n = .ok (s', a) → I s → I s'

theorem EInv.compileTail {I : BState → Prop} (hI : EInv I) : ∀ (popped : List UNode) {s s' : BState}
    {a : Nat}, s.compileTail popped = .ok (s', a) → I s → I s' := by
  intro popped
  induction popped with
  | nil => intro s s' a h hs; simp only [BState.compileTail] at h; cases h; exact hs
  | cons u rest ih =>
    intro s s' a h hs
    rw [BState.compileTail] at h
    cases hr : s.compileTail rest with
    | error e => rw [hr] at h; cases h
    | ok r =>
      obtain ⟨s1, a1⟩ := r
      rw [hr] at h
      simp only at h
      split at h
      · cases h
      · exact hI.compile h (ih hr hs)

theorem EInv.compileFrom {I : BState → Prop} (hI : EInv I) {s s' : BState} {i : Nat}
    (h : s.compileFrom i = .ok s') (hs : I s) : I s' := by
  unfold BState.compileFrom at h
  simp only at h
  cases hr : s.compileTail (s.stack.drop (i + 1)) with
  | error e => rw [hr] at h; cases h
  | ok r =>
    obtain ⟨s1, a1⟩ := r
    rw [hr] at h
    simp only at h
    split at h
    · cases h
    · cases h
      exact hI.frame (hI.compileTail _ hr hs) _ rfl rfl rfl rfl

theorem EInv.insertOutput {I : BState → Prop} (hI : EInv I) {s s' : BState} {k : Key} {out : Option Nat}
    (h : s.insertOutput k out = .ok s') (hs : I s) : I s' := by
  cases k
  · cases h; exact hI.frame hs _ rfl rfl rfl rfl
  · rw [insertOutput_cons] at h
    split at h
    · split at h
      · cases h
      · cases h; exact hI.frame hs _ rfl rfl rfl rfl
    · split at h
      · cases h
      · rename_i s2 hcf
        cases h
        exact hI.frame (hI.compileFrom hcf (hI.frame hs _ rfl rfl rfl rfl)) _ rfl rfl rfl rfl

theorem EInv.insert {I : BState → Prop} (hI : EInv I) {s s' : BState} {k : Key} {v : Nat}
    (h : s.insert k v = .ok s') (hs : I s) : I s' :=
  hI.insertOutput (insert_ok_iff.mp h).2 (hI.frame hs _ rfl rfl rfl rfl)

theorem EInv.add {I : BState → Prop} (hI : EInv I) {s s' : BState} {k : Key}
    (h : s.add k = .ok s') (hs : I s) : I s' :=
  hI.insertOutput (add_ok_iff.mp h).2 (hI.frame hs _ rfl rfl rfl rfl)

theorem EInv.finish {I : BState → Prop} (hI : EInv I) {s s' : BState} {root : Nat}
    (h : s.finish = .ok (s', root)) (hs : I s) : I s' := by
  unfold BState.finish at h
  cases hcf : s.compileFrom 0 with
  | error e => rw [hcf] at h; cases h
  | ok s1 =>
    rw [hcf] at h
    simp only at h
    split at h
    · split at h
      · cases h
      · exact hI.compile h (hI.compileFrom hcf hs)
    · cases h

theorem EInv.insertAll {I : BState → Prop} (hI : EInv I) : ∀ (kvs : KV) {s s' : BState},
    insertAll s kvs = .ok s' → I s → I s' :=
  fun kvs _ _ e hs => insertAll_preserves kvs (fun _ _ _ _ h hi => hI.insert hi h) hs e

theorem EInv.addAll {I : BState → Prop} (hI : EInv I) : ∀ (ks : List Key) {s s' : BState},
    addAll s ks = .ok s' → I s → I s' :=
  fun ks _ _ e hs => addAll_preserves (fun h ha => hI.add ha h) ks hs e

end MinP

/-! ### further invariants of the emitted nodes, generically

A `Pass` is a property `Q` of emitted nodes together with the matching property `QU` of
unfinished nodes (`k` is what hangs below the pending transition); it is carried through `compile`
(`compile_pass`) and one pop (`Pass.pop`, as a `PopMotive`: `Pass.popMotive`) once and for all. Used for
the value bound and for tightness. -/

structure Pass where
  Q : List Emit → BNode → Prop
  QU : List Emit → UNode → KV → Prop
  Q_mono : ∀ {s s' : BState} {n : BNode}, Le s s' → (∀ t ∈ n.trans, AddrOK s t.addr) →
    Q s.out n → Q s'.out n
  QU_mono : ∀ {s s' : BState} {u : UNode} {k : KV}, Le s s' → UAddr s u → QU s.out u k → QU s'.out u k
  freeze : ∀ {out : List Emit} {u : UNode} {a : Nat}, QU out u (denR out a) → Q out (u.freeze a)
  freeze_none : ∀ {out : List Emit} {u : UNode} {k : KV}, u.last = none → QU out u k → Q out u.node

def Pass.OutQ (P : Pass) (s : BState) : Prop := ∀ e ∈ s.out, P.Q s.out e.node

def Pass.StackQ (P : Pass) (out : List Emit) : List UNode → Prop
  | [] => True
  | u :: rest => P.QU out u (denK (denR out) rest []) ∧ P.StackQ out rest

theorem emitted_addrOK {s : BState} (hinv : SInv s) {e : Emit} (he : e ∈ s.out) :
    ∀ t ∈ e.node.trans, AddrOK s t.addr := by
  have hmem := mem_rstore he
  obtain ⟨_, _, _, n4⟩ := hinv.out.storeOK.node e.addr e.node hmem
  have hlt := (hinv.out.storeOK.addr _ hmem).2
  intro t ht
  exact TargetOK_mono (Nat.le_of_lt hlt) (fun _ h => h) (n4 t ht)

theorem Pass.StackQ_mono (P : Pass) {s s' : BState} (hle : Le s s') : ∀ (st : List UNode),
    (∀ u ∈ st, UAddr s u) → P.StackQ s.out st → P.StackQ s'.out st
  | [], _, _ => trivial
  | u :: rest, ha, h => by
    obtain ⟨h1, h2⟩ := h
    refine ⟨?_, P.StackQ_mono hle rest (fun w hw => ha w (List.mem_cons_of_mem _ hw)) h2⟩
    rw [denK_stable hle rest [] (fun w hw => ha w (List.mem_cons_of_mem _ hw))]
    exact P.QU_mono hle (ha u (by simp)) h1

theorem compile_pass (P : Pass) {s : BState} {n : BNode} {s' : BState} {a : Nat}
    (h : s.compile n = .ok (s', a)) (hinv : SInv s) (hn : NodeOK s n) (hall : P.OutQ s)
    (hq : P.Q s.out n) : P.OutQ s' := by
  obtain ⟨s'', a'', c⟩ := compile_spec hinv hn
  have hle := c.le
  have e := c.eq
  rw [h] at e; cases e
  have hold : ∀ e ∈ s.out, P.Q s'.out e.node :=
    fun e he => P.Q_mono hle (emitted_addrOK hinv he) (hall e he)
  intro e he
  rcases compile_cases h with ⟨_, rfl, _⟩ | ⟨_, _, _, rfl⟩ | ⟨_, _, _, _, _, _, _, _, rfl⟩
  · exact hold e he
  · exact hold e he
  · rcases List.mem_cons.mp he with rfl | he
    · exact P.Q_mono hle hn.2.2 hq
    · exact hold e he

/-- `StackQ` for a stack whose last node may already be frozen -/
def VQ (P : Pass) (out : List Emit) : List UNode → Prop
  | [] => True
  | u :: rest => (u.last = none → P.Q out u.node) ∧
      (u.last.isSome → P.QU out u (denK (denR out) rest [])) ∧ VQ P out rest

theorem VQ_of_StackQ (P : Pass) (out : List Emit) : ∀ st, P.StackQ out st → VQ P out st
  | [], _ => trivial
  | _ :: rest, h => ⟨fun hl => P.freeze_none hl h.1, fun _ => h.1, VQ_of_StackQ P out rest h.2⟩

/-- a pop does not change what the unfinished stack spells -/
theorem denK_pop {s s1 : BState} {u v : UNode} {a : Nat} (hu : u.last.isSome) (hv : v.last = none)
    (pf : PopFacts s s1 v.node a) (pre : List UNode) (haddr : ∀ w ∈ pre ++ [u], UAddr s w) :
    denK (denR s1.out) (pre ++ [⟨u.freeze a, none⟩]) [] = denK (denR s.out) (pre ++ [u, v]) [] := by
  obtain ⟨bo, hbo⟩ := Option.isSome_iff_exists.mp hu
  rw [denK_append, denK_append,
    denK_stable pf.le pre _ (fun w hw => haddr w (List.mem_append_left _ hw))]
  congr 1
  simp only [denK, denNodeWith_freeze, hbo, hv, List.append_nil, pf.den]
  rw [denNodeWith_stable pf.le (haddr u (by simp))]

theorem VQ_pop (P : Pass) {s s1 : BState} {u v : UNode} {a : Nat} (hu : u.last.isSome)
    (hv : v.last = none) (pf : PopFacts s s1 v.node a) : ∀ (pre : List UNode),
    (∀ w ∈ pre ++ [u], UAddr s w) → VQ P s.out (pre ++ [u, v]) →
    P.Q s.out v.node ∧ VQ P s1.out (pre ++ [⟨u.freeze a, none⟩]) := by
  intro pre
  induction pre with
  | nil =>
    rintro haddr ⟨_, hqu, hqv, _, _⟩
    refine ⟨hqv hv, fun _ => P.freeze ?_, fun h => by simp at h, trivial⟩
    have := P.QU_mono pf.le (haddr u (by simp)) (hqu hu)
    simpa only [denK, hv, List.append_nil, ← pf.den] using this
  | cons w pre ih =>
    rintro haddr ⟨hq, hqu, hrest⟩
    have haddr' : ∀ x ∈ pre ++ [u], UAddr s x := fun x hx => haddr x (List.mem_cons_of_mem _ hx)
    obtain ⟨i1, i2⟩ := ih haddr' hrest
    refine ⟨i1, fun hl => P.Q_mono pf.le (haddr w (by simp)) (hq hl), fun hl => ?_, i2⟩
    show P.QU s1.out w (denK (denR s1.out) (pre ++ [⟨u.freeze a, none⟩]) [])
    rw [denK_pop hu hv pf pre haddr']
    exact P.QU_mono pf.le (haddr w (by simp)) (hqu hl)

/-- the motive that carries a `Pass` through the pops -/
def PassM (P : Pass) (s : BState) (st : List UNode) : Prop :=
  (∀ w ∈ st, UAddr s w) ∧ P.OutQ s ∧ VQ P s.out st

theorem Pass.pop (P : Pass) {s s1 : BState} {pre : List UNode} {u v : UNode} {a : Nat}
    (hu : u.last.isSome) (hv : v.last = none) (pf : PopFacts s s1 v.node a)
    (hM : PassM P s (pre ++ [u, v])) : PassM P s1 (pre ++ [⟨u.freeze a, none⟩]) := by
  obtain ⟨haddr, hall, hvq⟩ := hM
  have haddr' : ∀ w ∈ pre ++ [u], UAddr s w := fun w hw => haddr w (by
    simp only [List.mem_append, List.mem_cons] at hw ⊢; grind)
  obtain ⟨hq, hvq'⟩ := VQ_pop P hu hv pf pre haddr' hvq
  refine ⟨?_, compile_pass P pf.eq pf.sinv pf.node hall hq, hvq'⟩
  intro w hw
  rcases List.mem_append.mp hw with hw | hw
  · exact (haddr' w (List.mem_append_left _ hw)).mono pf.le
  · simp only [List.mem_singleton] at hw
    subst hw
    intro t ht
    rcases mem_freeze.mp ht with ht | ⟨_, _, _, rfl⟩
    · exact (haddr' u (by simp) t ht).mono pf.le
    · exact pf.addr

theorem Pass.popMotive (P : Pass) : PopMotive (PassM P) := ⟨fun _ _ _ h => h, Pass.pop P⟩

/-- what the motive `PassM P`, carried through the pops below `top`, hands back: the pass on the emitted nodes
and on the node frozen from `top` -/
theorem PassM.frozen {P : Pass} {s s1 : BState} {top : UNode} {popped : List UNode} {a : Nat}
    (hm : ∀ pre : List UNode, PassM P s (pre ++ top :: popped) → PassM P s1 (pre ++ [⟨top.freeze a, none⟩]))
    (haddr : ∀ u ∈ top :: popped, UAddr s u) (hall : P.OutQ s) (hq : P.StackQ s.out (top :: popped)) :
    P.OutQ s1 ∧ P.Q s1.out (top.freeze a) :=
  let ⟨_, p1, p2, _⟩ := hm [] ⟨haddr, hall, VQ_of_StackQ P _ _ hq⟩
  ⟨p1, p2 rfl⟩

theorem finish_pass (P : Pass) {s s' : BState} {acc : KV} {root : Nat} (h : Core s acc)
    (hall : P.OutQ s) (hq : P.StackQ s.out s.stack) (hf : s.finish = .ok (s', root)) : P.OutQ s' := by
  obtain ⟨top, popped, s1, a, s'', root', r⟩ := finish_run P.popMotive h
  rw [r.eq] at hf; cases hf
  obtain ⟨p1, p2⟩ := PassM.frozen r.motive r.addr hall (r.stack_eq ▸ hq)
  exact compile_pass P r.comp.eq r.comp.sinv r.comp.node p1 p2

/-! ### tightness: every transition output is attained below it -/

def HasZero (l : KV) : Prop := ∃ k, (k, 0) ∈ l

/-- the same definition as `Tight` in `Proofs/Lookup.lean` (neither file imports the other); kept by a
build of `insert`s only: `insert k v; add k` pushes `v` below a transition of output 0 -/
def TightStore (s : Store) (den : Nat → KV) : Prop :=
  ∀ a n, (a, n) ∈ s → ∀ t ∈ n.trans, ∃ k, (k, 0) ∈ den t.addr

def tightPass : Pass where
  Q out n := ∀ t ∈ n.trans, HasZero (denR out t.addr)
  QU out u k := (∀ t ∈ u.node.trans, HasZero (denR out t.addr)) ∧ (u.last.isSome → HasZero k)
  Q_mono := by
    intro s s' n hle ha hq t ht
    rw [hle.2.2 _ (ha t ht).1]; exact hq t ht
  QU_mono := by
    intro s s' u k hle ha hq
    exact ⟨fun t ht => by rw [hle.2.2 _ (ha t ht).1]; exact hq.1 t ht, hq.2⟩
  freeze := by
    intro out u a hq t ht
    obtain ⟨h1, h2⟩ := hq
    rcases mem_freeze.mp ht with ht | ⟨b, o, hl, rfl⟩
    · exact h1 t ht
    · exact h2 (by rw [hl]; rfl)
  freeze_none := by
    intro out u k _ hq; exact hq.1

theorem tightQU_pushed {out : List Emit} {v : UNode} {k : KV} (o o' : Nat)
    (h : tightPass.QU out v k) : tightPass.QU out (pushed o o' v) k := by
  unfold pushed; split
  · refine ⟨fun t ht => ?_, by rw [addPrefix_last_isSome]; exact h.2⟩
    simp only [UNode.addPrefix, List.mem_map] at ht
    obtain ⟨t0, ht0, rfl⟩ := ht
    exact h.1 t0 ht0
  · exact h

/-- tightness right after output pushing: below a matched transition there is a 0 entry, or
nothing of the new value is left for the suffix -/
def TightC (out : List Emit) (rem : Nat) : Nat → List UNode → Prop
  | 0, st => tightPass.StackQ out st
  | _+1, [] => True
  | i+1, u :: rest => (∀ t ∈ u.node.trans, HasZero (denR out t.addr)) ∧
      (HasZero (denK (denR out) rest []) ∨ pathOut (rest.take i) + rem = 0) ∧ TightC out rem i rest

theorem cps_tight (outE : List Emit) (key : Key) (stack : List UNode) (out : Nat) (hw : WFStack stack) :
    tightPass.StackQ outE stack →
      TightC outE (cps stack key out).2.1 (cps stack key out).1 (cps stack key out).2.2 := by
  revert hw
  refine cps_induct (motive := fun stack key out => tightPass.StackQ outE stack →
      TightC outE (cps stack key out).2.1 (cps stack key out).1 (cps stack key out).2.2)
    ?_ ?_ key stack out
  · intro stack key out _ _ e h; rw [e]; exact h
  · intro u v rest b bs out o _ hl hwv ih hq
    obtain ⟨hq1, hq2, hq3⟩ := hq
    have hq' : tightPass.StackQ outE (pushed o out v :: rest) := ⟨tightQU_pushed _ _ hq2, hq3⟩
    have ih' := ih hq'
    have hden := (cps_spec bs (pushed o out v :: rest) (out - min o out) hwv).den (denR outE) []
    have p2 := (cps_spec bs (pushed o out v :: rest) (out - min o out) hwv).takeOut
    rw [cps_step _ _ _ _ _ _ _ hl]
    refine ⟨hq1.1, ?_, ih'⟩
    by_cases hle : o ≤ out
    · left
      rw [hden]
      have : pushed o out v = v := by unfold pushed; rw [Nat.min_eq_left hle, Nat.sub_self]; rfl
      rw [this]
      exact hq1.2 (by rw [hl]; rfl)
    · right
      show pathOut ((cps (pushed o out v :: rest) bs (out - min o out)).2.2.take
          (cps (pushed o out v :: rest) bs (out - min o out)).1) +
        (cps (pushed o out v :: rest) bs (out - min o out)).2.1 = 0
      rw [p2, Nat.min_eq_right (Nat.le_of_not_le hle), Nat.sub_self]

theorem TightC_drop (out : List Emit) (rem : Nat) (tail : List UNode) : ∀ (front : List UNode),
    TightC out rem front.length (front ++ tail) → tightPass.StackQ out tail
  | [], h => h
  | _ :: front, h => TightC_drop out rem tail front h.2.2

theorem tight_chain (out : List Emit) : ∀ bs : Key, tightPass.StackQ out (chain bs)
  | [] => ⟨⟨fun t ht => by simp at ht, fun h => by simp at h⟩, trivial⟩
  | b :: bs => by
    refine ⟨⟨fun t ht => by simp [BNode.empty] at ht, fun _ => ?_⟩, tight_chain out bs⟩
    rw [denK_chain]; exact ⟨bs, by simp⟩

theorem tight_rebuild {s s3 : BState} (hle : Le s s3) (rem : Nat) (tail tail3 : List UNode) (key : Key)
    (htail : denK (denR s3.out) tail3 [] = denK (denR s.out) tail [] ++ [(key, rem)])
    (hq3 : tightPass.StackQ s3.out tail3) :
    ∀ front : List UNode, (∀ u ∈ front, u.last.isSome) → (∀ u ∈ front, UAddr s u) →
      TightC s.out rem front.length (front ++ tail) → tightPass.StackQ s3.out (front ++ tail3) := by
  intro front
  induction front with
  | nil => intro _ _ _; exact hq3
  | cons u front ih =>
    rintro hsome haddr ⟨h1, h2, h3⟩
    have h2 : HasZero (denK (denR s.out) (front ++ tail) []) ∨
        pathOut ((front ++ tail).take front.length) + rem = 0 := h2
    have h3 : TightC s.out rem front.length (front ++ tail) := h3
    have hsome' : ∀ w ∈ front, w.last.isSome := fun w hw => hsome w (List.mem_cons_of_mem _ hw)
    have haddr' : ∀ w ∈ front, UAddr s w := fun w hw => haddr w (List.mem_cons_of_mem _ hw)
    refine ⟨⟨?_, fun _ => ?_⟩, ih hsome' haddr' h3⟩
    · intro t ht
      rw [hle.2.2 _ (haddr u (by simp) t ht).1]
      exact h1 t ht
    · show HasZero (denK (denR s3.out) (front ++ tail3) [])
      rw [denK_append, htail, denK_snoc _ front hsome', denK_stable hle front _ haddr', ← denK_append]
      rcases h2 with ⟨k, hk⟩ | h0
      · exact ⟨k, List.mem_append_left _ hk⟩
      · rw [List.take_left'  rfl] at h0
        exact ⟨pathKey front ++ key, List.mem_append_right _ (by rw [h0]; simp)⟩

def InvT (s : BState) : Prop := tightPass.OutQ s ∧ tightPass.StackQ s.out s.stack

theorem InvT_new (rows cols : Nat) : InvT (BState.new rows cols) := by
  refine ⟨fun e he => by simp [BState.new] at he, ⟨⟨fun t ht => ?_, fun h => ?_⟩, trivial⟩⟩
  · simp [BNode.empty] at ht
  · simp at h

/-- an accepted `insertOutput` of a key other than the one just added keeps the state tight -/
theorem step_tight {s s' : BState} {acc : KV} {k : Key} {out : Option Nat} (hc : Core s acc)
    (hT : InvT s) (st : Step (PassM tightPass) s k out s') (hnd : pathKey s.stack = k → k = []) :
    InvT s' := by
  cases st with
  | empty _ hp hs =>
    subst hs
    obtain ⟨top, hst, hl, htr⟩ := hc.root hp
    refine ⟨hT.1, ?_⟩
    show tightPass.StackQ s.out (setRootOutput s.stack (out.getD 0))
    rw [hst]
    exact ⟨⟨fun t ht => by simp [htr] at ht, fun hs => by simp [hl] at hs⟩, trivial⟩
  | dup hk hp _ _ => exact absurd (hnd hp) hk
  | new i rem front top popped s1 a b2 bs' _ _ r hs =>
    subst hs
    have htc := cps_tight s.out k s.stack (out.getD 0) hc.wf hT.2
    rw [r.cps_eq] at htc
    simp only at htc
    rw [← r.len] at htc
    obtain ⟨p1, p3⟩ := PassM.frozen r.motive (fun u hu => r.addr u (List.mem_append_right _ hu)) hT.1
      (TightC_drop s.out rem _ front htc)
    refine ⟨p1, ?_⟩
    show tightPass.StackQ s1.out (front ++ ⟨top.freeze a, some (b2, rem)⟩ :: chain bs')
    refine tight_rebuild r.le rem (top :: popped) (⟨top.freeze a, some (b2, rem)⟩ :: chain bs')
      (b2 :: bs') ?_ ⟨⟨p3, fun _ => ?_⟩, tight_chain _ bs'⟩ front r.fsome
      (fun u hu => r.addr u (List.mem_append_left _ hu)) htc
    · simp only [denK, denK_chain, r.den]
      simp [lift]
    · rw [denK_chain]; exact ⟨bs', by simp⟩

theorem insert_tight {s s' : BState} {acc : KV} (h : Inv s acc) (hT : InvT s) {k : Key} {v : Nat}
    (hi : s.insert k v = .ok s') : InvT s' := by
  refine step_tight (Core_setLast h.core (some k)) hT (insert_step (Pass.popMotive _) h hi) ?_
  intro hp
  have hp : s.last.getD [] = k := h.path ▸ hp
  cases hl : s.last with
  | none => rw [hl] at hp; exact hp.symm
  | some last =>
    rw [hl] at hp
    have := insert_ok_lt hi last hl
    rw [show last = k from hp, lexLt_irrefl] at this
    cases this

theorem insertAll_tight {kvs : KV} {s s' : BState} {acc : KV} (h : Inv s acc) (hT : InvT s)
    (e : insertAll s kvs = .ok s') : InvT s' :=
  (insertAll_preserves (P := fun s => (∃ acc, Inv s acc) ∧ InvT s) kvs
    (fun _ _ _ _ hP hi => let ⟨_, hinv⟩ := hP.1; ⟨⟨_, insert_inv hinv hi⟩, insert_tight hinv hP.2 hi⟩)
    ⟨⟨acc, h⟩, hT⟩ e).2

theorem tightStore_of_OutQ {s : BState} (h : tightPass.OutQ s) :
    TightStore (storeOf s) (denOf (storeOf s)) := by
  intro a n hp t ht
  rw [denOf_storeOf]
  obtain ⟨e, he, _, hn⟩ := mem_rstore_iff.mp (mem_storeOf.mp hp)
  subst hn
  exact h e he t ht

/-! ### value bound: no output exceeds the largest inserted value

Value arithmetic of the model is on `Nat` (Rust: `u64` `+` and checked `-`). Every output
stored anywhere is bounded by the largest inserted value, so for values `< 2^64` there is
no overflow; `cps` only subtracts `min o out` from `o` and from `out`, so no underflow. -/

def NodeBound (M : Nat) (n : BNode) : Prop := n.fout ≤ M ∧ ∀ t ∈ n.trans, t.out ≤ M

def boundPass (M : Nat) : Pass where
  Q _ n := NodeBound M n
  QU _ u _ := NodeBound M u.node ∧ ∀ b o, u.last = some (b, o) → o ≤ M
  Q_mono := fun _ _ h => h
  QU_mono := fun _ _ h => h
  freeze := by
    intro out u a hq
    obtain ⟨⟨h1, h2⟩, h3⟩ := hq
    refine ⟨(freeze_fin u a).2 ▸ h1, fun t ht => ?_⟩
    rcases mem_freeze.mp ht with ht | ⟨b, o, hl, rfl⟩
    · exact h2 t ht
    · exact h3 b o hl
  freeze_none := fun _ hq => hq.1

/-- path sums: the outputs along the pending path plus any output of the node stay ≤ M -/
def BoundU (M : Nat) : Nat → List UNode → Prop
  | _, [] => True
  | acc, u :: rest => (u.node.fin = true → acc + u.node.fout ≤ M) ∧
      (∀ t ∈ u.node.trans, acc + t.out ≤ M) ∧
      (∀ b o, u.last = some (b, o) → acc + o ≤ M ∧ BoundU M (acc + o) rest)

theorem BoundU_stackQ (M : Nat) (out : List Emit) : ∀ (st : List UNode) (acc : Nat),
    WFStack st → BoundU M acc st → (∀ u ∈ st, UShape u) → (boundPass M).StackQ out st := by
  intro st
  induction st with
  | nil => intro _ h _ _; exact absurd h id
  | cons u rest ih =>
    rintro acc hw ⟨h1, h2, h3⟩ hs
    have hsh := hs u (by simp)
    refine ⟨⟨⟨?_, fun t ht => Nat.le_trans (Nat.le_add_left _ _) (h2 t ht)⟩,
      fun b o hl => Nat.le_trans (Nat.le_add_left _ _) (h3 b o hl).1⟩, ?_⟩
    · cases hf : u.node.fin with
      | true => exact Nat.le_trans (Nat.le_add_left _ _) (h1 hf)
      | false => rw [hsh.2.1 hf]; exact Nat.zero_le _
    · cases rest with
      | nil => trivial
      | cons v rest' =>
        obtain ⟨hsome, hw'⟩ := WFStack_cons_cons.mp hw
        obtain ⟨bo, hbo⟩ := Option.isSome_iff_exists.mp hsome
        exact ih _ hw' (h3 bo.1 bo.2 hbo).2 (fun w hw' => hs w (List.mem_cons_of_mem _ hw'))

theorem BoundU_addPrefix (M a p : Nat) (v : UNode) (rest : List UNode)
    (h : BoundU M (a + p) (v :: rest)) : BoundU M a (v.addPrefix p :: rest) := by
  obtain ⟨h1, h2, h3⟩ := h
  refine ⟨?_, ?_, ?_⟩
  · intro hf
    have hf' : v.node.fin = true := hf
    simp only [UNode.addPrefix, hf', if_true]
    rw [← Nat.add_assoc]; exact h1 hf'
  · intro t ht
    simp only [UNode.addPrefix, List.mem_map] at ht
    obtain ⟨t0, ht0, rfl⟩ := ht
    simp only
    rw [← Nat.add_assoc]; exact h2 t0 ht0
  · intro b o hl
    cases hv : v.last with
    | none => simp [UNode.addPrefix, hv] at hl
    | some bo =>
      obtain ⟨b0, o0⟩ := bo
      simp only [UNode.addPrefix, hv, Option.map_some, Option.some.injEq, Prod.mk.injEq] at hl
      obtain ⟨rfl, rfl⟩ := hl
      rw [← Nat.add_assoc]; exact h3 b0 o0 hv

theorem cps_bound (M : Nat) (key : Key) (stack : List UNode) (out : Nat) (hw : WFStack stack) :
    ∀ acc, BoundU M acc stack → acc + out ≤ M → BoundU M acc (cps stack key out).2.2 := by
  revert hw
  refine cps_induct (motive := fun stack key out =>
    ∀ acc, BoundU M acc stack → acc + out ≤ M → BoundU M acc (cps stack key out).2.2)
    ?_ ?_ key stack out
  · intro stack key out _ _ e acc h _; rw [e]; exact h
  · intro u v rest b bs out o _ hl _ ih acc h hout
    obtain ⟨h1, h2, h3⟩ := h
    obtain ⟨g1, g2⟩ := h3 b o hl
    rw [cps_step _ _ _ _ _ _ _ hl]
    refine ⟨h1, h2, ?_⟩
    intro b' c hl'
    simp only [Option.some.injEq, Prod.mk.injEq] at hl'
    obtain ⟨rfl, rfl⟩ := hl'
    refine ⟨Nat.le_trans (Nat.add_le_add_left (Nat.min_le_left o out) acc) g1, ih _ ?_
      (by rw [Nat.add_assoc, Nat.add_sub_of_le (Nat.min_le_right o out)]; exact hout)⟩
    unfold pushed
    by_cases hz : o - min o out = 0
    · have hmin : min o out = o := Nat.le_antisymm (Nat.min_le_left o out) (Nat.le_of_sub_eq_zero hz)
      rw [if_neg (not_not_intro hz), hmin]
      exact g2
    · rw [if_pos hz]
      apply BoundU_addPrefix
      rw [Nat.add_assoc, Nat.add_sub_of_le (Nat.min_le_left o out)]
      exact g2

theorem BoundU_append (M : Nat) (tail tail3 : List UNode) : ∀ (front : List UNode) (acc : Nat),
    (∀ u ∈ front, u.last.isSome) → BoundU M acc (front ++ tail) →
    BoundU M (acc + pathOut front) tail ∧
      (BoundU M (acc + pathOut front) tail3 → BoundU M acc (front ++ tail3)) := by
  intro front
  induction front with
  | nil => intro acc _ h; simp only [pathOut, Nat.add_zero, List.nil_append]; exact ⟨h, id⟩
  | cons u front ih =>
    rintro acc hsome ⟨h1, h2, h3⟩
    obtain ⟨bo, hbo⟩ := Option.isSome_iff_exists.mp (hsome u (by simp))
    obtain ⟨b, o⟩ := bo
    obtain ⟨g1, g2⟩ := h3 b o hbo
    obtain ⟨i1, i2⟩ := ih (acc + o) (fun w hw => hsome w (List.mem_cons_of_mem _ hw)) g2
    simp only [pathOut, hbo]
    rw [← Nat.add_assoc]
    refine ⟨i1, fun h3' => ⟨h1, h2, ?_⟩⟩
    intro b' o' hl'
    rw [hbo] at hl'
    simp only [Option.some.injEq, Prod.mk.injEq] at hl'
    obtain ⟨rfl, rfl⟩ := hl'
    exact ⟨g1, i2 h3'⟩

theorem BoundU_chain (M : Nat) : ∀ (bs : Key) (a : Nat), a ≤ M → BoundU M a (chain bs)
  | [], a, h => ⟨fun _ => by simpa using h, fun t ht => by simp at ht, fun b o hl => by simp at hl⟩
  | b :: bs, a, h => by
    refine ⟨fun hf => by simp [BNode.empty] at hf, fun t ht => by simp [BNode.empty] at ht, ?_⟩
    intro b' o hl
    simp only [Option.some.injEq, Prod.mk.injEq] at hl
    obtain ⟨_, rfl⟩ := hl
    exact ⟨by simpa using h, BoundU_chain M bs _ (by simpa using h)⟩

def InvB (M : Nat) (s : BState) : Prop := (boundPass M).OutQ s ∧ BoundU M 0 s.stack

theorem InvB_new (M rows cols : Nat) : InvB M (BState.new rows cols) := by
  refine ⟨fun e he => by simp [BState.new] at he, ?_, ?_, ?_⟩
  · intro hf; simp [BNode.empty] at hf
  · intro t ht; simp [BNode.empty] at ht
  · intro b o hl; simp at hl

theorem step_bound {M : Nat} {s s' : BState} {acc : KV} {k : Key} {out : Option Nat} (hc : Core s acc)
    (hB : InvB M s) (hv : out.getD 0 ≤ M) (st : Step (PassM (boundPass M)) s k out s') :
    InvB M s' := by
  have hb1 := cps_bound M k s.stack (out.getD 0) hc.wf 0 hB.2 (by rwa [Nat.zero_add])
  cases st with
  | empty _ hp hs =>
    subst hs
    obtain ⟨top, hst, hl, htr⟩ := hc.root hp
    refine ⟨hB.1, ?_⟩
    show BoundU M 0 (setRootOutput s.stack (out.getD 0))
    rw [hst]
    refine ⟨fun _ => by simpa using hv, fun t ht => by simp [htr] at ht, fun b o hl' => ?_⟩
    simp [hl] at hl'
  | dup _ _ _ hs => subst hs; exact ⟨hB.1, hb1⟩
  | new i rem front top popped s1 a b2 bs' _ _ r hs =>
    subst hs
    rw [r.cps_eq] at hb1
    obtain ⟨t1, t2⟩ := BoundU_append M (top :: popped)
      (⟨top.freeze a, some (b2, rem)⟩ :: chain bs') front 0 r.fsome hb1
    simp only [Nat.zero_add] at t1 t2
    obtain ⟨p1, _⟩ := PassM.frozen r.motive (fun u hu => r.addr u (List.mem_append_right _ hu)) hB.1
      (BoundU_stackQ M s.out _ _ r.wf t1 (fun u hu => r.shape u (List.mem_append_right _ hu)))
    refine ⟨p1, t2 ?_⟩
    obtain ⟨u1, u2, u3⟩ := t1
    have hrem : pathOut front + rem ≤ M := r.pathOut ▸ hv
    refine ⟨fun hf => ?_, fun t ht => ?_, fun b' o' hl => ?_⟩
    · show pathOut front + (top.freeze a).fout ≤ M
      rw [(freeze_fin top a).2]
      exact u1 ((freeze_fin top a).1 ▸ hf)
    · rcases mem_freeze.mp ht with ht | ⟨b0, o0, hl, rfl⟩
      · exact u2 t ht
      · exact (u3 b0 o0 hl).1
    · simp only [Option.some.injEq, Prod.mk.injEq] at hl
      obtain ⟨_, rfl⟩ := hl
      exact ⟨hrem, BoundU_chain M bs' _ hrem⟩

theorem insert_bound {M : Nat} {s s' : BState} {acc : KV} (h : Inv s acc) (hB : InvB M s) {k : Key}
    {v : Nat} (hv : v ≤ M) (hi : s.insert k v = .ok s') : InvB M s' :=
  step_bound (out := some v) (Core_setLast h.core (some k)) hB hv (insert_step (Pass.popMotive _) h hi)

theorem add_bound {M : Nat} {s s' : BState} {acc : KV} (h : Inv s acc) (hB : InvB M s) {k : Key}
    (ha : s.add k = .ok s') : InvB M s' :=
  step_bound (out := none) (Core_setLast h.core (some k)) hB (Nat.zero_le _)
    (add_step (Pass.popMotive _) h ha)

theorem finish_bound {M : Nat} {s s' : BState} {acc : KV} {root : Nat} (h : Core s acc) (hB : InvB M s)
    (hf : s.finish = .ok (s', root)) : (boundPass M).OutQ s' :=
  finish_pass _ h hB.1 (BoundU_stackQ M s.out _ 0 h.wf hB.2 h.shape) hf

theorem insertAll_bound {M : Nat} : ∀ (kvs : KV) (s s' : BState) (acc : KV), Inv s acc → InvB M s →
    (∀ kv ∈ kvs, kv.2 ≤ M) → insertAll s kvs = .ok s' → InvB M s' :=
  fun kvs _ _ acc h hB hM e =>
    (insertAll_preserves (P := fun s => (∃ acc, Inv s acc) ∧ InvB M s) kvs
      (fun kv hkv _ _ hP hi => let ⟨_, hinv⟩ := hP.1;
        ⟨⟨_, insert_inv hinv hi⟩, insert_bound hinv hP.2 (hM kv hkv) hi⟩)
      ⟨⟨acc, h⟩, hB⟩ e).2

theorem addAll_bound {M : Nat} : ∀ (ks : List Key) (s s' : BState), Reachable s → InvB M s →
    addAll s ks = .ok s' → InvB M s' :=
  fun ks _ _ hr hB e =>
    (addAll_preserves (P := fun s => Reachable s ∧ InvB M s)
      (fun hP ha => let ⟨_, hinv⟩ := reachable_inv hP.1; ⟨.add _ hP.1 ha, add_bound hinv hP.2 ha⟩)
      ks ⟨hr, hB⟩ e).2

theorem insert_bound_reachable {M : Nat} {s s' : BState} (hr : Reachable s) (hB : InvB M s) {k : Key}
    {v : Nat} (hv : v ≤ M) (hi : s.insert k v = .ok s') : InvB M s' := by
  obtain ⟨acc, hinv⟩ := reachable_inv hr
  exact insert_bound hinv hB hv hi

/-! ### results -/

/-- the state `s'` and the root address that `finish` leaves hold a good store that spells `acc` -/
structure Finished (s' : BState) (root : Nat) (acc : KV) : Prop where
  good : GoodStore (storeOf s') (denOf (storeOf s'))
  den : denOf (storeOf s') root = acc
  len : s'.len = acc.length
  root : root = 0 ∨ ∃ n, (root, n) ∈ storeOf s'

/-- everything known about a finished build, from the state it is finished in -/
theorem finish_state {s s' : BState} {acc : KV} {root : Nat} (h : Inv s acc)
    (hf : s.finish = .ok (s', root)) :
    Finished s' root acc ∧ (InvT s → TightStore (storeOf s') (denOf (storeOf s'))) ∧
      ∀ M, InvB M s → ∀ e ∈ s'.out, e.node.fout ≤ M ∧ ∀ t ∈ e.node.trans, t.out ≤ M := by
  have F := finish_spec h.core hf
  exact ⟨⟨goodStore_of_OutOK F.sinv.out, by rw [denOf_storeOf]; exact F.den, by rw [F.len, h.core.len],
    F.addr.2.imp id fun ⟨n, hn⟩ => ⟨n, mem_storeOf.mpr hn⟩⟩,
    fun hT => tightStore_of_OutQ (finish_pass _ h.core hT.1 hT.2 hf), fun M hB => finish_bound h.core hB hf⟩

/-- map mode: building from strictly increasing keys never fails; the store spells the inserted
map, is tight, and holds no output above a bound of the inserted values -/
theorem build_map (rows cols : Nat) {kvs : KV} (h : SortedKV kvs) :
    ∃ s s' root, insertAll (BState.new rows cols) kvs = .ok s ∧ s.finish = .ok (s', root) ∧
      Reachable s ∧ Finished s' root kvs ∧ TightStore (storeOf s') (denOf (storeOf s')) ∧
      ∀ M, (∀ kv ∈ kvs, kv.2 ≤ M) → ∀ e ∈ s'.out, e.node.fout ≤ M ∧ ∀ t ∈ e.node.trans, t.out ≤ M := by
  have hnew := Inv_new rows cols
  obtain ⟨s, e, i1⟩ := insertAll_inv kvs (BState.new rows cols) [] hnew (sortedAfter_none h)
  obtain ⟨s', root, hf⟩ := finish_ok i1.core
  simp only [List.nil_append] at i1
  obtain ⟨F, ht, hb⟩ := finish_state i1 hf
  exact ⟨s, s', root, e, hf, reachable_insertAll kvs (.new rows cols) e, F,
    ht (insertAll_tight hnew (InvT_new rows cols) e),
    fun M hM => hb M (insertAll_bound kvs _ _ [] hnew (InvB_new M rows cols) hM e)⟩

/-- map mode, the content part of `build_map`: for every cache geometry, building from strictly increasing
keys never fails and the emitted store spells exactly the inserted map -/
theorem build_ok (rows cols : Nat) (kvs : KV) (h : SortedKV kvs) :
    ∃ s s' root, insertAll (BState.new rows cols) kvs = .ok s ∧ s.finish = .ok (s', root) ∧
      GoodStore (storeOf s') (denOf (storeOf s')) ∧
      denOf (storeOf s') root = kvs ∧ s'.len = kvs.length ∧
      (root = 0 ∨ ∃ n, (root, n) ∈ storeOf s') := by
  obtain ⟨s, s', root, e, f, _, F, _⟩ := build_map rows cols h
  exact ⟨s, s', root, e, f, F.good, F.den, F.len, F.root⟩

example : ∃ s, insertAll (BState.new 2 2) [([1], 5), ([1, 2], 3)] = .ok s ∧ Reachable s := by
  obtain ⟨s, _, _, e, _⟩ := build_ok 2 2 [([1], 5), ([1, 2], 3)] (by simp [SortedKV, lexLt])
  exact ⟨s, e, reachable_insertAll _ (Reachable.new 2 2) e⟩

/-- map mode, the tightness part of `build_map`: in the store of a finished build every transition output is
attained, i.e. the denotation of every transition target has an entry of value 0 -/
theorem build_tight (rows cols : Nat) (kvs : KV) (h : SortedKV kvs) :
    ∃ s s' root, insertAll (BState.new rows cols) kvs = .ok s ∧ s.finish = .ok (s', root) ∧
      TightStore (storeOf s') (denOf (storeOf s')) := by
  obtain ⟨s, s', root, e, f, _, _, ht, _⟩ := build_map rows cols h
  exact ⟨s, s', root, e, f, ht⟩

example : ∀ kv ∈ ([([], 7), ([1], 5), ([1, 2], 3), ([1, 3], 9), ([2, 3], 1)] : KV), kv.2 ≤ 9 := by
  decide

/-- set mode: building from non-decreasing keys never fails; the store spells the distinct keys
with value 0, and every stored output is 0 -/
theorem build_set (rows cols : Nat) {ks : List Key} (h : SortedKeysLe ks) :
    ∃ s s' root, addAll (BState.new rows cols) ks = .ok s ∧ s.finish = .ok (s', root) ∧
      Reachable s ∧ Finished s' root (zeroKV (dedupKeys ks)) ∧
      ∀ e ∈ s'.out, e.node.fout = 0 ∧ ∀ t ∈ e.node.trans, t.out = 0 := by
  obtain ⟨s, e, i1⟩ := addAll_inv ks (BState.new rows cols) [] (Inv_new rows cols)
    (by intro kv hkv; simp at hkv) (leAfter_none h)
  obtain ⟨s', root, hf⟩ := finish_ok i1.core
  simp only [List.nil_append] at i1
  obtain ⟨F, _, hb⟩ := finish_state i1 hf
  refine ⟨s, s', root, e, hf, reachable_addAll ks (.new rows cols) e, F, fun em he => ?_⟩
  -- set mode: 0 bounds the values, so every stored output is 0
  obtain ⟨b1, b2⟩ := hb 0 (addAll_bound ks _ _ (.new rows cols) (InvB_new 0 rows cols) e) em he
  exact ⟨Nat.le_zero.mp b1, fun t ht => Nat.le_zero.mp (b2 t ht)⟩

/-- set mode, the content part of `build_set`: non-decreasing keys through `add`; repeated keys collapse and
the store spells the distinct keys with value 0 -/
theorem build_ok_set (rows cols : Nat) (ks : List Key) (h : SortedKeysLe ks) :
    ∃ s s' root, addAll (BState.new rows cols) ks = .ok s ∧ s.finish = .ok (s', root) ∧
      GoodStore (storeOf s') (denOf (storeOf s')) ∧
      denOf (storeOf s') root = zeroKV (dedupKeys ks) ∧ s'.len = (dedupKeys ks).length ∧
      (root = 0 ∨ ∃ n, (root, n) ∈ storeOf s') := by
  obtain ⟨s, s', root, e, f, _, F, _⟩ := build_set rows cols h
  exact ⟨s, s', root, e, f, F.good, F.den, by simpa [zeroKV] using F.len, F.root⟩

end Fst
