import FstVerif.Proofs.KeyOrder
import FstVerif.Proofs.Registry
import FstVerif.Model.Sink
/-
The nodes a builder has emitted (`Model/Build.lean`, mirror of `src/raw/build.rs`), and `Builder::compile`.

Vocabulary that the statements of other files use: `storeOf` / `rstore` (the emitted nodes, oldest /
newest first) with their denotations `denOf` / `denR`.

The emitted nodes satisfy `OutOK` (their store `StoreOK`, hence a `GoodStore` with the table
denotation `denR`). `compile` on a fit node is described by `Compiled` (`compile_spec`).
The reference encoder (`Proofs/OldVerTrie.lean`) emits into the same kind of store.
-/
namespace Fst

/-! ### the emitted store and its denotation -/

/-- denotation read off a table; address 0 (`EMPTY_ADDRESS`) is the empty final node -/
def lookT (tbl : List (Nat × KV)) (a : Nat) : KV :=
  if a = 0 then [([], 0)] else (tbl.lookup a).getD []

/-- table of a store given newest first -/
def denTbl : List (Nat × BNode) → List (Nat × KV)
  | [] => []
  | p :: rest => (p.1, denNodeWith (lookT (denTbl rest)) p.2) :: denTbl rest

def denOf (st : Store) : Nat → KV := lookT (denTbl st.reverse)

/-- the abstract store of a builder state: emitted nodes in emission order -/
def storeOf (s : BState) : Store := s.out.reverse.map fun e => (e.addr, e.node)

/-- the same, newest first (the order in which the state keeps them) -/
def rstore (out : List Emit) : List (Nat × BNode) := out.map fun e => (e.addr, e.node)

def denR (out : List Emit) : Nat → KV := lookT (denTbl (rstore out))

theorem storeOf_reverse (s : BState) : (storeOf s).reverse = rstore s.out := by
  simp [storeOf, rstore, List.map_reverse]

theorem denOf_storeOf (s : BState) : denOf (storeOf s) = denR s.out := by
  unfold denOf denR; rw [storeOf_reverse]

theorem mem_storeOf {s : BState} {p : Nat × BNode} : p ∈ storeOf s ↔ p ∈ rstore s.out := by
  rw [← storeOf_reverse, List.mem_reverse]

theorem mem_rstore {out : List Emit} {e : Emit} (h : e ∈ out) : (e.addr, e.node) ∈ rstore out :=
  List.mem_map.mpr ⟨e, h, rfl⟩

theorem mem_rstore_iff {out : List Emit} {a : Nat} {n : BNode} :
    (a, n) ∈ rstore out ↔ ∃ e ∈ out, e.addr = a ∧ e.node = n := by
  simp only [rstore, List.mem_map, Prod.mk.injEq]

theorem denR_zero (out : List Emit) : denR out 0 = [([], 0)] := by simp [denR, lookT]

theorem lookT_cons_self (a : Nat) (x : KV) (tbl : List (Nat × KV)) (h : a ≠ 0) :
    lookT ((a, x) :: tbl) a = x := by simp [lookT, h]

theorem lookT_cons_ne {a a' : Nat} (x : KV) (tbl : List (Nat × KV)) (h : a ≠ a') :
    lookT ((a', x) :: tbl) a = lookT tbl a := by
  unfold lookT
  split
  · rfl
  · have : (a == a') = false := by simpa using h
    simp [List.lookup_cons, this]

theorem denNodeWith_congr {d d' : Nat → KV} {n : BNode}
    (h : ∀ t ∈ n.trans, d t.addr = d' t.addr) : denNodeWith d n = denNodeWith d' n := by
  unfold denNodeWith
  congr 1
  generalize n.trans = ts at h
  induction ts with
  | nil => rfl
  | cons t ts ih =>
    simp only [List.flatMap_cons]
    rw [h t (by simp), ih (fun t' ht' => h t' (by simp [ht']))]

def Emit.size (e : Emit) : Nat := (e.chunks.map List.length).sum

/-- a transition target: below the write position, and 0 or an emitted address -/
def TargetOK (R : List (Nat × BNode)) (c : Nat) (a : Nat) : Prop :=
  a < c ∧ (a = 0 ∨ ∃ m, (a, m) ∈ R)

/-- `OutOK out count lastAddr`: layout and shape of the emitted nodes, newest first. The first node
starts at 16, after the two header words of `Builder::new_type`; the address of a node is that of
its last byte. -/
def OutOK : List Emit → Nat → Nat → Prop
  | [], c, l => c = 16 ∧ l = NONE_ADDRESS
  | e :: es, c, l => ∃ c0 l0, OutOK es c0 l0 ∧
      compileNodeC e.node l0 c0 = some e.chunks ∧ 1 ≤ e.size ∧
      e.addr = c0 + e.size - 1 ∧ c = c0 + e.size ∧ l = e.addr ∧
      SortedInputs e.node ∧ isEmptyFinal e.node = false ∧
      (e.node.fin = false → e.node.fout = 0) ∧
      ∀ t ∈ e.node.trans, TargetOK (rstore es) c0 t.addr

/-- a node of `n ≥ 1` bytes written at `c` has its address, that of its last byte, in `[c, c + n)` -/
theorem lastByte_bounds (c : Nat) {n : Nat} (h : 1 ≤ n) : c ≤ c + n - 1 ∧ c + n - 1 < c + n :=
  have hlt : c < c + n := Nat.lt_add_of_pos_right h
  ⟨Nat.le_sub_one_of_lt hlt, Nat.sub_one_lt (Nat.ne_zero_of_lt hlt)⟩

theorem TargetOK_mono {R R' : List (Nat × BNode)} {c c' a : Nat} (hc : c ≤ c')
    (hR : ∀ p ∈ R, p ∈ R') (h : TargetOK R c a) : TargetOK R' c' a := by
  refine ⟨Nat.lt_of_lt_of_le h.1 hc, ?_⟩
  rcases h.2 with h0 | ⟨m, hm⟩
  · exact Or.inl h0
  · exact Or.inr ⟨m, hR _ hm⟩

/-- `StoreOK R c`: a store given newest first, written below offset `c`: addresses increase,
every node has the stored shape, every target is 0 or an older node -/
def StoreOK : List (Nat × BNode) → Nat → Prop
  | [], c => c = 16
  | x :: R, c => ∃ c0, StoreOK R c0 ∧ c0 ≤ x.1 ∧ x.1 < c ∧
      SortedInputs x.2 ∧ isEmptyFinal x.2 = false ∧ (x.2.fin = false → x.2.fout = 0) ∧
      ∀ t ∈ x.2.trans, TargetOK R c0 t.addr

abbrev denS (R : List (Nat × BNode)) : Nat → KV := lookT (denTbl R)

theorem StoreOK.count_ge : ∀ {R : List (Nat × BNode)} {c : Nat}, StoreOK R c → 16 ≤ c := by
  intro R
  induction R with
  | nil => intro c h; exact Nat.le_of_eq (Eq.symm h)
  | cons x R ih =>
    rintro c ⟨c0, h0, h1, h2, _⟩
    exact Nat.le_trans (ih h0) (Nat.le_trans h1 (Nat.le_of_lt h2))

theorem StoreOK.addr : ∀ {R : List (Nat × BNode)} {c : Nat}, StoreOK R c →
    ∀ p ∈ R, 16 ≤ p.1 ∧ p.1 < c := by
  intro R
  induction R with
  | nil => intro c _ p hp; cases hp
  | cons x R ih =>
    rintro c ⟨c0, h0, h1, h2, _⟩ p hp
    rcases List.mem_cons.mp hp with rfl | hp
    · exact ⟨Nat.le_trans h0.count_ge h1, h2⟩
    · exact (ih h0 p hp).imp_right fun h => Nat.lt_trans h (Nat.lt_of_le_of_lt h1 h2)

theorem StoreOK.node : ∀ {R : List (Nat × BNode)} {c : Nat}, StoreOK R c → ∀ a n, (a, n) ∈ R →
    SortedInputs n ∧ isEmptyFinal n = false ∧ (n.fin = false → n.fout = 0) ∧
      ∀ t ∈ n.trans, TargetOK R a t.addr := by
  intro R
  induction R with
  | nil => intro c _ a n hp; cases hp
  | cons x R ih =>
    rintro c ⟨c0, h0, h1, h2, hs, hef, hff, ht⟩ a n hp
    rcases List.mem_cons.mp hp with rfl | hp
    · exact ⟨hs, hef, hff, fun t htm =>
        TargetOK_mono h1 (fun p hp => List.mem_cons_of_mem _ hp) (ht t htm)⟩
    · obtain ⟨i1, i2, i3, i4⟩ := ih h0 a n hp
      exact ⟨i1, i2, i3, fun t htm =>
        TargetOK_mono (Nat.le_refl _) (fun p hp => List.mem_cons_of_mem _ hp) (i4 t htm)⟩

theorem StoreOK.functional : ∀ {R : List (Nat × BNode)} {c : Nat}, StoreOK R c → ∀ a n m,
    (a, n) ∈ R → (a, m) ∈ R → n = m := by
  intro R
  induction R with
  | nil => intro c _ a n m hp; cases hp
  | cons x R ih =>
    rintro c ⟨c0, h0, h1, _⟩ a n m hn hm
    rcases List.mem_cons.mp hn with rfl | hn
    · rcases List.mem_cons.mp hm with hm | hm
      · exact (Prod.mk.inj hm).2.symm
      · exact absurd (Nat.lt_of_lt_of_le (h0.addr _ hm).2 h1) (Nat.lt_irrefl a)
    · rcases List.mem_cons.mp hm with hm | hm
      · rw [← hm] at h1; exact absurd (Nat.lt_of_lt_of_le (h0.addr _ hn).2 h1) (Nat.lt_irrefl a)
      · exact ih h0 a n m hn hm

/-- the table really is a denotation: every stored address spells its node -/
theorem StoreOK.den_unfold : ∀ {R : List (Nat × BNode)} {c : Nat}, StoreOK R c → ∀ a n, (a, n) ∈ R →
    denS R a = denNodeWith (denS R) n := by
  intro R
  induction R with
  | nil => intro c _ a n hp; cases hp
  | cons x R ih =>
    intro c h
    have hfull := h
    obtain ⟨c0, h0, h1, _⟩ := h
    intro a n hp
    have h16 := h0.count_ge
    have hnode := (hfull.node a n hp).2.2.2
    -- every target of `n` is below `a ≤ x.1`, so the newest entry is not consulted
    have hax : a ≤ x.1 := by
      rcases List.mem_cons.mp hp with rfl | hp
      · exact Nat.le_refl _
      · exact Nat.le_of_lt (Nat.lt_of_lt_of_le (h0.addr _ hp).2 h1)
    have hcongr : denNodeWith (denS (x :: R)) n = denNodeWith (denS R) n :=
      denNodeWith_congr fun t htm =>
        lookT_cons_ne _ _ (Nat.ne_of_lt (Nat.lt_of_lt_of_le (hnode t htm).1 hax))
    rw [hcongr]
    rcases List.mem_cons.mp hp with rfl | hp
    · exact lookT_cons_self _ _ _ (Nat.ne_zero_of_lt (Nat.lt_of_lt_of_le h16 h1))
    · rw [show denS (x :: R) a = denS R a from
        lookT_cons_ne _ _ (Nat.ne_of_lt (Nat.lt_of_lt_of_le (h0.addr _ hp).2 h1))]
      exact ih h0 a n hp

theorem StoreOK.goodStore {R : List (Nat × BNode)} {c : Nat} (h : StoreOK R c) :
    GoodStore R.reverse (denS R) := by
  refine ⟨by simp [lookT], ?_, ?_, ?_, ?_, ?_⟩
  · intro a n hp; exact h.den_unfold a n (List.mem_reverse.mp hp)
  · intro a n hp; have := (h.addr _ (List.mem_reverse.mp hp)).1; simp only at this; omega
  · intro a n m hn hm
    exact h.functional a n m (List.mem_reverse.mp hn) (List.mem_reverse.mp hm)
  · intro a n hp t ht
    obtain ⟨h1, h2⟩ := (h.node a n (List.mem_reverse.mp hp)).2.2.2 t ht
    refine ⟨h1, ?_⟩
    rcases h2 with h0 | ⟨m, hm⟩
    · exact Or.inl h0
    · exact Or.inr ⟨m, List.mem_reverse.mpr hm⟩
  · intro a n hp; exact (h.node a n (List.mem_reverse.mp hp)).1

theorem OutOK.storeOK : ∀ {es : List Emit} {c l : Nat}, OutOK es c l → StoreOK (rstore es) c := by
  intro es
  induction es with
  | nil => intro c l h; exact h.1
  | cons e es ih =>
    rintro c l ⟨c0, l0, h0, _, h1, ha, rfl, _, hs, hef, hff, ht⟩
    have hb : c0 ≤ e.addr ∧ e.addr < c0 + e.size := ha ▸ lastByte_bounds c0 h1
    exact ⟨c0, ih h0, hb.1, hb.2, hs, hef, hff, ht⟩

theorem goodStore_of_OutOK {s : BState} (h : OutOK s.out s.count s.lastAddr) :
    GoodStore (storeOf s) (denOf (storeOf s)) := by
  have := h.storeOK.goodStore
  rw [← storeOf_reverse, List.reverse_reverse] at this
  exact this

/-! ### the node encoder succeeds on a node with sorted inputs (at most 256 transitions) -/

theorem sorted_nat_length : ∀ (l : List Nat) (m k : Nat), l.Pairwise (· < ·) →
    (∀ x ∈ l, m ≤ x) → (∀ x ∈ l, x < k) → l.length ≤ k - m := by
  intro l
  induction l with
  | nil => intro _ _ _ _ _; exact Nat.zero_le _
  | cons a rest ih =>
    intro m k hp hm hk
    rw [List.pairwise_cons] at hp
    have ih := ih (a + 1) k hp.2 (fun x hx => hp.1 x hx)
      (fun x hx => hk x (List.mem_cons_of_mem _ hx))
    have h1 := hm a (by simp)
    have h2 := hk a (by simp)
    simp only [List.length_cons]
    omega

theorem sortedInputs_length {n : BNode} (h : SortedInputs n) : n.trans.length ≤ 256 := by
  have hp : (n.trans.map fun t => t.inp.toNat).Pairwise (· < ·) := by
    rw [List.pairwise_map]
    exact h.imp (fun hab => UInt8.lt_iff_toNat_lt.mp hab)
  have := sorted_nat_length _ 0 256 hp (fun _ _ => Nat.zero_le _) (by
    intro x hx
    simp only [List.mem_map] at hx
    obtain ⟨t, _, rfl⟩ := hx
    exact UInt8.toNat_lt _)
  simpa using this

/-- the forms of `Node::compile`'s output: nothing for the empty final node, else the general
form or one of the two one-transition forms -/
theorem compileNodeC_cases {n : BNode} (l a : Nat) (h : n.trans.length ≤ 256) :
    (isEmptyFinal n = true ∧ compileNodeC n l a = some []) ∨
    (isEmptyFinal n = false ∧ (compileNodeC n l a = some (compileAnyc a n) ∨
      ∃ t, compileNodeC n l a = some (compileOTNc t.inp) ∨ compileNodeC n l a = some (compileOTc a t))) := by
  unfold compileNodeC
  rw [if_neg (Nat.not_lt.mpr h)]
  cases he : isEmptyFinal n with
  | true => exact Or.inl ⟨rfl, rfl⟩
  | false =>
    refine Or.inr ⟨rfl, ?_⟩
    rw [if_neg Bool.false_ne_true]
    by_cases h1 : (n.trans.length != 1 || n.fin) = true
    · rw [if_pos h1]; exact Or.inl rfl
    · rw [if_neg h1]
      simp only [bne_iff_ne, ne_eq, Bool.or_eq_true, not_or, Decidable.not_not] at h1
      obtain ⟨t, hts⟩ := List.length_eq_one_iff.mp h1.1
      rw [hts]
      refine Or.inr ⟨t, ?_⟩
      simp only
      by_cases h2 : (t.addr = l && t.out = 0) = true
      · rw [if_pos h2]; exact Or.inl rfl
      · rw [if_neg h2]; exact Or.inr rfl

theorem compileNodeC_some {n : BNode} (l a : Nat) (h : n.trans.length ≤ 256) :
    ∃ cs, compileNodeC n l a = some cs := by
  rcases compileNodeC_cases l a h with ⟨_, e⟩ | ⟨_, e | ⟨t, e | e⟩⟩ <;> exact ⟨_, e⟩

theorem compileNodeC_some_le {n : BNode} {l a : Nat} {cs : List (List UInt8)}
    (h : compileNodeC n l a = some cs) : n.trans.length ≤ 256 := by
  unfold compileNodeC at h
  by_cases h0 : n.trans.length > 256
  · rw [if_pos h0] at h; cases h
  · omega

theorem compileNodeC_size {n : BNode} {l a : Nat} {cs : List (List UInt8)}
    (h : compileNodeC n l a = some cs) (he : isEmptyFinal n = false) :
    1 ≤ (cs.map List.length).sum := by
  -- each of the three forms ends in a chunk of one byte
  have hsnoc (xs : List (List UInt8)) (b : UInt8) : 1 ≤ ((xs ++ [[b]]).map List.length).sum := by
    rw [List.map_append, List.sum_append]; exact Nat.le_add_left 1 _
  rcases compileNodeC_cases l a (compileNodeC_some_le h) with ⟨e, _⟩ | ⟨_, e | ⟨t, e | e⟩⟩
  · rw [he] at e; exact Bool.noConfusion e
  · rw [e] at h; have h' := Option.some.inj h; subst h'
    exact hsnoc _ _
  · rw [e] at h; have h' := Option.some.inj h; subst h'
    exact hsnoc _ _
  · rw [e] at h; have h' := Option.some.inj h; subst h'
    exact hsnoc _ _

/-! ### `Builder::compile` -/

/-- invariant of the fields that `compile` touches: emitted nodes well laid out, cache sound -/
structure SInv (s : BState) : Prop where
  out : OutOK s.out s.count s.lastAddr
  reg : RegSound s.reg (rstore s.out)

/-- `s'` extends `s`: more bytes, more nodes, old addresses spell what they spelled -/
def Le (s s' : BState) : Prop :=
  s.count ≤ s'.count ∧ (∀ p ∈ rstore s.out, p ∈ rstore s'.out) ∧
    ∀ a, a < s.count → denR s'.out a = denR s.out a

theorem Le.refl (s : BState) : Le s s := ⟨Nat.le_refl _, fun _ h => h, fun _ _ => rfl⟩

theorem Le.trans {s1 s2 s3 : BState} (h12 : Le s1 s2) (h23 : Le s2 s3) : Le s1 s3 :=
  ⟨Nat.le_trans h12.1 h23.1, fun p hp => h23.2.1 p (h12.2.1 p hp),
   fun a ha => by rw [h23.2.2 a (Nat.lt_of_lt_of_le ha h12.1), h12.2.2 a ha]⟩

def AddrOK (s : BState) (a : Nat) : Prop := TargetOK (rstore s.out) s.count a

theorem AddrOK.mono {s s' : BState} {a : Nat} (hle : Le s s') (h : AddrOK s a) : AddrOK s' a :=
  TargetOK_mono hle.1 hle.2.1 h

/-- what `compile` needs from the node it is given -/
def NodeOK (s : BState) (n : BNode) : Prop :=
  SortedInputs n ∧ (n.fin = false → n.fout = 0) ∧ ∀ t ∈ n.trans, AddrOK s t.addr

/-- the state after writing a node that was not found in the cache -/
def emitState (s : BState) (n : BNode) (cs : List (List UInt8)) (reg'' : Registry) : BState :=
  { s with reg := reg'', count := s.count + (cs.map List.length).sum,
           lastAddr := s.count + (cs.map List.length).sum - 1,
           out := ⟨s.count + (cs.map List.length).sum - 1, n, cs⟩ :: s.out }

/-- the outcomes of a successful `Builder::compile`: the empty final node, a cache hit, or a
write (cache miss or a cache that rejects everything) -/
theorem compile_cases {s s' : BState} {n : BNode} {a : Nat} (h : s.compile n = .ok (s', a)) :
    (isEmptyFinal n = true ∧ s' = s ∧ a = EMPTY_ADDRESS) ∨
    (isEmptyFinal n = false ∧ ∃ reg', s.reg.entry n = (reg', .found a) ∧ s' = { s with reg := reg' }) ∨
    (isEmptyFinal n = false ∧ ∃ reg' e cs, s.reg.entry n = (reg', e) ∧ (∀ a', e ≠ .found a') ∧
      compileNodeC n s.lastAddr s.count = some cs ∧ a = s.count + (cs.map List.length).sum - 1 ∧
      s' = emitState s n cs (match e with | .notFound b => reg'.insert b a | _ => reg')) := by
  unfold BState.compile at h
  by_cases he : isEmptyFinal n = true
  · rw [if_pos he] at h; cases h; exact Or.inl ⟨he, rfl, rfl⟩
  · rw [if_neg he] at h
    have he' : isEmptyFinal n = false := by simpa using he
    generalize hre : s.reg.entry n = re at h
    obtain ⟨reg', e⟩ := re
    cases e with
    | found a' => cases h; exact Or.inr (Or.inl ⟨he', reg', rfl, rfl⟩)
    | notFound b =>
      simp only at h
      split at h
      · cases h
      · rename_i cs hcs
        cases h
        exact Or.inr (Or.inr ⟨he', reg', .notFound b, cs, rfl, fun _ hh => (nomatch hh), hcs, rfl, rfl⟩)
    | rejected =>
      simp only at h
      split at h
      · cases h
      · rename_i cs hcs
        cases h
        exact Or.inr (Or.inr ⟨he', reg', .rejected, cs, rfl, fun _ hh => (nomatch hh), hcs, rfl, rfl⟩)

theorem emit_spec {s : BState} {n : BNode} {cs : List (List UInt8)} (hinv : SInv s) (hn : NodeOK s n)
    (he' : isEmptyFinal n = false) (hcs : compileNodeC n s.lastAddr s.count = some cs)
    (reg'' : Registry) (hreg : RegSound reg'' (rstore (emitState s n cs reg'').out)) :
    SInv (emitState s n cs reg'') ∧ Le s (emitState s n cs reg'') ∧
      AddrOK (emitState s n cs reg'') (s.count + (cs.map List.length).sum - 1) ∧
      denR (emitState s n cs reg'').out (s.count + (cs.map List.length).sum - 1) =
        denNodeWith (denR s.out) n := by
  obtain ⟨hsorted, hff, htr⟩ := hn
  have h16 := hinv.out.storeOK.count_ge
  have hsz := compileNodeC_size hcs he'
  obtain ⟨hlo, hhi⟩ := lastByte_bounds s.count hsz
  refine ⟨⟨?_, hreg⟩, ⟨Nat.le_add_right _ _, ?_, ?_⟩, ⟨hhi, Or.inr ⟨n, List.mem_cons_self⟩⟩, ?_⟩
  · exact ⟨s.count, s.lastAddr, hinv.out, hcs, hsz, rfl, rfl, rfl, hsorted, he', hff, htr⟩
  · intro p hp; simp only [rstore, emitState, List.map_cons]; exact List.mem_cons_of_mem _ hp
  · intro a ha; exact lookT_cons_ne _ _ (Nat.ne_of_lt (Nat.lt_of_lt_of_le ha hlo))
  · exact lookT_cons_self _ _ _ (Nat.ne_zero_of_lt (Nat.lt_of_lt_of_le h16 hlo))

/-- what a successful `compile` of `n` in state `s` has done: it leaves `s'` and returns the address `a` -/
structure Compiled (s : BState) (n : BNode) (s' : BState) (a : Nat) : Prop where
  eq : s.compile n = .ok (s', a)
  sinv' : SInv s'
  le : Le s s'
  last : s'.last = s.last
  len : s'.len = s.len
  addr : AddrOK s' a
  den : denR s'.out a = denNodeWith (denR s.out) n

theorem compile_spec {s : BState} {n : BNode} (hinv : SInv s) (hn : NodeOK s n) :
    ∃ s' a, Compiled s n s' a := by
  have hn0 := hn
  obtain ⟨hsorted, hff, htr⟩ := hn
  have h16 := hinv.out.storeOK.count_ge
  by_cases he : isEmptyFinal n = true
  · have e : s.compile n = .ok (s, EMPTY_ADDRESS) := by rw [BState.compile, if_pos he]
    refine ⟨s, EMPTY_ADDRESS, e, hinv, Le.refl s, rfl, rfl, ⟨Nat.lt_of_lt_of_le (by decide) h16, Or.inl rfl⟩, ?_⟩
    simp only [isEmptyFinal, Bool.and_eq_true, List.isEmpty_iff, beq_iff_eq] at he
    obtain ⟨⟨hf, ht⟩, ho⟩ := he
    simp [EMPTY_ADDRESS, denR_zero, denNodeWith, own, hf, ht, ho]
  · have he' : isEmptyFinal n = false := by simpa using he
    generalize hre : s.reg.entry n = re
    obtain ⟨reg', e⟩ := re
    obtain ⟨cs, hcs⟩ := compileNodeC_some s.lastAddr s.count (sortedInputs_length hsorted)
    have hsub : ∀ reg'', ∀ p ∈ rstore s.out, p ∈ rstore (emitState s n cs reg'').out := by
      intro _ p hp; simp only [rstore, emitState, List.map_cons]; exact List.mem_cons_of_mem _ hp
    cases e with
    | found a =>
      obtain ⟨hr, hmem⟩ := entry_found hre hinv.reg
      have e : s.compile n = .ok ({ s with reg := reg' }, a) := by rw [BState.compile, if_neg he, hre]
      refine ⟨_, a, e, ⟨hinv.out, hr⟩, Le.refl s, rfl, rfl,
        ⟨(hinv.out.storeOK.addr _ hmem).2, Or.inr ⟨n, hmem⟩⟩, ?_⟩
      exact hinv.out.storeOK.den_unfold a n hmem
    | notFound b =>
      have e : s.compile n = .ok (emitState s n cs (reg'.insert b (s.count + (cs.map List.length).sum - 1)),
          s.count + (cs.map List.length).sum - 1) := by
        rw [BState.compile, if_neg he, hre]; simp only [hcs]; rfl
      obtain ⟨i1, i2, i3, i4⟩ := emit_spec hinv hn0 he' hcs
        (reg'.insert b (s.count + (cs.map List.length).sum - 1))
        (entry_notFound_insert hre hinv.reg (hsub _) List.mem_cons_self)
      exact ⟨_, _, e, i1, i2, rfl, rfl, i3, i4⟩
    | rejected =>
      have := (entry_rejected hre).1
      subst this
      have e : s.compile n = .ok (emitState s n cs s.reg, s.count + (cs.map List.length).sum - 1) := by
        rw [BState.compile, if_neg he, hre]; simp only [hcs]; rfl
      obtain ⟨i1, i2, i3, i4⟩ := emit_spec hinv hn0 he' hcs s.reg (RegSound_mono (hsub _) hinv.reg)
      exact ⟨_, _, e, i1, i2, rfl, rfl, i3, i4⟩

end Fst
