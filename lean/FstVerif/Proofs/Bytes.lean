import FstVerif.Model.Bytes
/-
`packIn` / `unpack` are inverse on values that fit, and the little-endian u32 / u64 fields of the
file header and footer are instances; cutting a segment out of a byte list; `Seg l off x` (`x` occurs
in `l` at offset `off`) and reading such a segment through `Src`.
-/
theorem List.flatMap_congr_left {α β : Type} {l : List α} {f g : α → List β}
    (h : ∀ a ∈ l, f a = g a) : l.flatMap f = l.flatMap g := by
  rw [List.flatMap_def, List.flatMap_def, List.map_congr_left h]

namespace Fst

theorem packIn_length (n k : Nat) : (packIn n k).length = k := by
  induction k generalizing n with
  | zero => rfl
  | succ k ih => simp [packIn, ih]

theorem unpack_packIn (n k : Nat) (h : n < 256 ^ k) : unpack (packIn n k) = n := by
  induction k generalizing n with
  | zero => simp at h; simp [packIn, unpack, h]
  | succ k ih =>
    have h' : n / 256 < 256 ^ k := by
      rw [Nat.div_lt_iff_lt_mul (by decide)]; rw [Nat.pow_succ] at h; exact h
    simp only [packIn, unpack, ih _ h', UInt8.toNat_ofNat']
    rw [Nat.mod_eq_of_lt (Nat.mod_lt _ (by decide))]
    exact Nat.mod_add_div n 256

theorem u64le_length (n : Nat) : (u64le n).length = 8 := packIn_length n 8
theorem u32le_length (n : Nat) : (u32le n).length = 4 := packIn_length n 4

theorem drop_take_seg (a x b : List UInt8) (i k : Nat) (hi : a.length = i) (hk : x.length = k) :
    ((a ++ x ++ b).drop i).take k = x := by
  subst hi hk
  rw [List.append_assoc, List.drop_left' rfl, List.take_left' rfl]

theorem unpack_u64le {n : Nat} (h : n < 2^64) : unpack (u64le n) = n :=
  unpack_packIn n 8 (by simpa using h)

theorem unpack_u32le {n : Nat} (h : n < 2^32) : unpack (u32le n) = n :=
  unpack_packIn n 4 (by simpa using h)

/-- `x` occurs in `l` at byte offset `off` -/
def Seg (l : List UInt8) (off : Nat) (x : List UInt8) : Prop :=
  ∃ a b, l = a ++ x ++ b ∧ a.length = off

theorem seg_mid (pre x post : List UInt8) : Seg (pre ++ x ++ post) pre.length x :=
  ⟨pre, post, rfl, rfl⟩

theorem seg_all (l : List UInt8) : Seg l 0 l := ⟨[], [], (List.append_nil l).symm, rfl⟩

theorem seg_cast {l : List UInt8} {a b : Nat} {x : List UInt8} (h : Seg l a x) (e : a = b) :
    Seg l b x := e ▸ h

theorem seg_append {l : List UInt8} {off : Nat} {x y : List UInt8} (h : Seg l off (x ++ y)) :
    Seg l off x ∧ Seg l (off + x.length) y := by
  obtain ⟨a, b, rfl, rfl⟩ := h
  exact ⟨⟨a, y ++ b, by simp, rfl⟩, ⟨a ++ x, b, by simp, by simp⟩⟩

theorem seg_cons {l : List UInt8} {off : Nat} {b : UInt8} {x : List UInt8} (h : Seg l off (b :: x)) :
    l[off]? = some b ∧ Seg l (off + 1) x := by
  obtain ⟨a, c, rfl, rfl⟩ := h
  exact ⟨by simp, ⟨a ++ [b], c, by simp, by simp⟩⟩

theorem seg_get {l : List UInt8} {off : Nat} {x : List UInt8} (h : Seg l off x)
    (i : Nat) (hi : i < x.length) : l[off + i]? = some x[i] := by
  obtain ⟨a, c, rfl, rfl⟩ := h
  rw [List.append_assoc, List.getElem?_append_right (by omega)]
  rw [show a.length + i - a.length = i by omega, List.getElem?_append_left hi]
  simp [hi]

theorem seg_get? {l : List UInt8} {off : Nat} {x : List UInt8} (h : Seg l off x) (i : Nat) (y : UInt8)
    (hy : x[i]? = some y) : l[off + i]? = some y := by
  obtain ⟨hi, rfl⟩ := List.getElem?_eq_some_iff.mp hy
  exact seg_get h i hi

theorem seg_single {l : List UInt8} {off : Nat} {b : UInt8} (h : Seg l off [b]) : l[off]? = some b :=
  (seg_cons h).1

theorem seg_len {l : List UInt8} {off : Nat} {x : List UInt8} (h : Seg l off x) :
    off + x.length ≤ l.length := by
  obtain ⟨a, c, rfl, rfl⟩ := h; simp

namespace OpenProofs
theorem read_ofList (bs : List UInt8) : ∀ (n i : Nat), i + n ≤ bs.length →
    (Src.ofList bs).read i n = some ((bs.drop i).take n)
  | 0, i, _ => by simp [Src.read]
  | n+1, i, h => by
    have hi : i < bs.length := by omega
    have ih := read_ofList bs n (i+1) (by omega)
    have hd : bs.drop i = bs[i] :: bs.drop (i+1) := List.drop_eq_getElem_cons hi
    simp only [Src.read, ih, hd, List.take_succ_cons]
    simp [Src.ofList, hi]

end OpenProofs

theorem seg_read {l : List UInt8} {off : Nat} {x : List UInt8} (h : Seg l off x) :
    (Src.ofList l).read off x.length = some x := by
  obtain ⟨a, b, rfl, rfl⟩ := h
  rw [OpenProofs.read_ofList _ _ _ (by simp only [List.length_append]; omega), drop_take_seg a x b _ _ rfl rfl]

theorem Src.get_mid (pre x post : List UInt8) (i : Nat) (hi : i < x.length) :
    (Src.ofList (pre ++ x ++ post)).get (pre.length + i) = x[i]? := by
  have := seg_get (seg_mid pre x post) i hi
  simp only [Src.ofList]; rw [this]; simp [hi]

theorem seg_unpackAt {l : List UInt8} {off k n : Nat} (h : Seg l off (packIn n k)) (hn : n < 256 ^ k) :
    (Src.ofList l).unpackAt off k = some n := by
  have := seg_read h
  rw [packIn_length] at this
  simp only [Src.unpackAt, this, Option.map_some, unpack_packIn n k hn]

theorem Src.read_mid (pre x post : List UInt8) :
    (Src.ofList (pre ++ x ++ post)).read pre.length x.length = some x :=
  seg_read (seg_mid pre x post)

theorem Src.unpackAt_mid (pre post : List UInt8) (n k : Nat) (h : n < 256 ^ k) :
    (Src.ofList (pre ++ packIn n k ++ post)).unpackAt pre.length k = some n :=
  seg_unpackAt (seg_mid pre _ post) h

theorem length_flatMap_const {α β : Type} (ts : List α) (f : α → List β) (k : Nat)
    (hk : ∀ t ∈ ts, (f t).length = k) : (ts.flatMap f).length = ts.length * k := by
  rw [List.length_flatMap, List.map_congr_left hk, List.map_const', List.sum_replicate_nat]

theorem seg_flatMap {α : Type} {l : List UInt8} {off k : Nat} {ts : List α} {f : α → List UInt8}
    (h : Seg l off (ts.flatMap f)) (hk : ∀ t ∈ ts, (f t).length = k) (i : Nat) (hi : i < ts.length) :
    Seg l (off + i * k) (f ts[i]) := by
  induction ts generalizing off i with
  | nil => simp at hi
  | cons t ts ih =>
    rw [List.flatMap_cons] at h
    obtain ⟨h1, h2⟩ := seg_append h
    cases i with
    | zero => simpa using h1
    | succ i =>
      have := ih h2 (fun t ht => hk t (List.mem_cons_of_mem _ ht)) i (by simpa using hi)
      rw [hk t List.mem_cons_self] at this
      simp only [List.getElem_cons_succ]
      rw [Nat.add_one_mul, Nat.add_comm (i * k), ← Nat.add_assoc]
      exact this

theorem rev_get {α : Type} (ts : List α) (i : Nat) (hi : i < ts.length) :
    ts.reverse[ts.length - 1 - i]'(by simp; omega) = ts[i] := by
  simp only [List.getElem_reverse, Nat.sub_sub_self (Nat.le_sub_one_of_lt hi)]

theorem seg_flatMap_rev {α : Type} {l : List UInt8} {off k : Nat} {ts : List α} {f : α → List UInt8}
    (h : Seg l off (ts.reverse.flatMap f)) (hk : ∀ t ∈ ts, (f t).length = k) (i : Nat)
    (hi : i < ts.length) : Seg l (off + (ts.length - 1 - i) * k) (f ts[i]) := by
  have := seg_flatMap h (fun t ht => hk t (List.mem_reverse.mp ht)) (ts.length - 1 - i) (by simp; omega)
  rwa [rev_get ts i hi] at this

end Fst
