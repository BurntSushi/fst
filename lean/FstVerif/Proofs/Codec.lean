import FstVerif.Proofs.CodecAny
/-
The node codec round trip. `compileNode`, `Spec.compileNodeV` and (up to `flatten`) `compileNodeC`
are one four-way choice, `compileWith`; `Written w start n enc` lists the three forms in which a node
is written, and `Written.decodes` is the round trip for reader version `v` and writer version `w`.
`codec_seg` is the instance for `compileNode`: versions ≥ 2 unconditionally, version 1 for at most
`TRANS_INDEX_THRESHOLD` transitions (above it the shipped writer emits the 256-byte index, which a
version-1 reader does not expect and would misread). Store level: `represents_of_laidBy` over any consecutive layout `LaidBy P`.
`WFNode.ofBuilder` makes a `WFNode` (Proofs/CodecOne.lean) from what a writer knows: `lastAddr` is
the address of the node before or a sentinel no transition targets (the builder's `NONE_ADDRESS`).
-/
namespace Fst

theorem mapM_some {α β : Type} (f : α → Option β) (g : α → β) (l : List α)
    (h : ∀ a ∈ l, f a = some (g a)) : l.mapM f = some (l.map g) := by
  induction l with
  | nil => rfl
  | cons a l ih =>
    rw [List.mapM_cons, h a List.mem_cons_self, ih (fun b hb => h b (List.mem_cons_of_mem _ hb))]
    rfl

theorem Decodes.toBNode {d : Src} {rn : RNode} {n : BNode} {start addr : Nat}
    (D : Decodes d rn n start addr) : rn.toBNode d = some n := by
  have h : rn.transitions d = some n.trans := by
    rw [RNode.transitions, D.ntrans,
      mapM_some _ (fun i => n.trans[i]?.getD default) _ (by
        intro i hi
        have hi := List.mem_range.mp hi
        rw [(D.trans i hi).1]; simp [hi])]
    congr 1
    apply List.ext_getElem
    · simp
    · intro i h1 h2; simp at h1; simp [h1]
  rw [RNode.toBNode, h, Option.map_some, D.fin, D.fout]

/-- the shape shared by the node encoders: they differ in the index of the `StateAnyTrans` form
(writer version `w`) and in the test `next` for the `StateOneTransNext` form -/
def compileWith (w : Nat) (next : Tr → Bool) (n : BNode) (start : Nat) : Option (List UInt8) :=
  if n.trans.length > 256 then none
  else if isEmptyFinal n then some []
  else if n.trans.length != 1 || n.fin then some (Spec.compileAnyV w start n)
  else match n.trans with
    | [t] => if next t then some (compileOTN t.inp) else some (compileOT start t)
    | _ => none

theorem compileNode_eq_with (n : BNode) (lastAddr start : Nat) :
    compileNode n lastAddr start = compileWith 2 (fun t => t.addr = lastAddr && t.out = 0) n start := by
  unfold compileNode compileWith
  rw [compileAnyV_ge2 (Nat.le_refl 2)]
  rfl

/-- the reference encoder is `compileWith` as it is written -/
theorem compileNodeV_eq_with (w : Nat) (n : BNode) (lastAddr start : Nat) :
    Spec.compileNodeV w n lastAddr start =
      compileWith w (fun t => t.addr = lastAddr && t.out = 0 && t.addr != 0) n start := rfl

theorem compileWith_isSome (w : Nat) (next : Tr → Bool) (n : BNode) (start : Nat)
    (h : n.trans.length ≤ 256) : ∃ enc, compileWith w next n start = some enc := by
  unfold compileWith
  rw [if_neg (Nat.not_lt.mpr h)]
  -- the two Boolean conditions are taken apart themselves: the `if`s then reduce by evaluation
  cases isEmptyFinal n
  case true => exact ⟨_, rfl⟩
  cases hne : n.trans.length != 1 || n.fin
  case true => exact ⟨_, rfl⟩
  simp only [Bool.or_eq_false_iff, bne_eq_false_iff_eq] at hne
  obtain ⟨t, ht⟩ := List.length_eq_one_iff.mp hne.1
  rw [ht]
  exact ⟨_, (apply_ite some ..).symm⟩

/-- the three ways a node other than the empty final one is written at `start` by a
version-`w` encoder -/
inductive Written (w start : Nat) : BNode → List UInt8 → Prop
  | any (n : BNode) : Written w start n (Spec.compileAnyV w start n)
  | next (t : Tr) : t.out = 0 → t.addr = start - 1 → Written w start ⟨false, 0, [t]⟩ (compileOTN t.inp)
  | one (t : Tr) : Written w start ⟨false, 0, [t]⟩ (compileOT start t)

theorem compileWith_written {w : Nat} {next : Tr → Bool} {n : BNode} {lastAddr start : Nat}
    {enc : List UInt8} (hnext : ∀ t, next t = true → t.addr = lastAddr ∧ t.out = 0)
    (wf : WFNode n lastAddr start) (henc : compileWith w next n start = some enc) :
    Written w start n enc := by
  unfold compileWith at henc
  rw [if_neg (Nat.not_lt.mpr wf.ntrans), wf.notEmpty, if_neg Bool.false_ne_true] at henc
  by_cases hne : n.trans.length != 1 || n.fin
  · rw [if_pos hne] at henc
    injection henc with henc
    exact henc ▸ .any n
  · rw [if_neg hne] at henc
    simp only [Bool.not_eq_true, Bool.or_eq_false_iff, bne_eq_false_iff_eq] at hne
    obtain ⟨hlen, hfin⟩ := hne
    obtain ⟨f, fo, ts⟩ := n
    simp only at hlen hfin henc
    subst hfin
    have hfo : fo = 0 := wf.finOut rfl
    subst hfo
    obtain ⟨t, rfl⟩ := List.length_eq_one_iff.mp hlen
    simp only at henc
    split at henc
    · rename_i hc
      injection henc with henc
      obtain ⟨ha, ho⟩ := hnext t hc
      have hla : lastAddr = start - 1 := by
        rcases wf.next with h | h
        · exact h
        · exact absurd ha (h t List.mem_cons_self)
      exact henc ▸ .next t ho (ha.trans hla)
    · injection henc with henc
      exact henc ▸ .one t

theorem compileNode_written {n : BNode} {lastAddr start : Nat} {enc : List UInt8}
    (wf : WFNode n lastAddr start) (henc : compileNode n lastAddr start = some enc) :
    Written 2 start n enc :=
  compileWith_written (fun t h => by simpa using h) wf (compileNode_eq_with n lastAddr start ▸ henc)

theorem compileNodeV_written {w : Nat} {n : BNode} {lastAddr start : Nat} {enc : List UInt8}
    (wf : WFNode n lastAddr start) (henc : Spec.compileNodeV w n lastAddr start = some enc) :
    Written w start n enc :=
  compileWith_written (fun t h => by
    simp only [Bool.and_eq_true, decide_eq_true_eq] at h; exact h.1) wf
    (compileNodeV_eq_with w n lastAddr start ▸ henc)

theorem compileAnyV_ne_nil (w start : Nat) (n : BNode) : Spec.compileAnyV w start n ≠ [] :=
  -- the last piece is a singleton
  compileAnyV_eq .. ▸ List.append_ne_nil_of_right_ne_nil _ nofun

theorem Written.ne_nil {w start : Nat} {n : BNode} {enc : List UInt8} (W : Written w start n enc) :
    enc ≠ [] := by
  cases W with
  | any => exact compileAnyV_ne_nil w start n
  -- both encodings end with the state byte
  | next t => exact List.append_ne_nil_of_right_ne_nil _ nofun
  | one t => exact List.append_ne_nil_of_right_ne_nil _ nofun

/-- a version-`v` reader decodes what a version-`w` encoder wrote, provided the two agree on
whether the node carries an index -/
theorem Written.decodes {v w start : Nat} {n : BNode} {enc l : List UInt8} {lastAddr : Nat}
    (W : Written w start n enc) (hvw : indexSize v n.trans.length = indexSize w n.trans.length)
    (wf : WFNode n lastAddr start) (hseg : Seg l start enc) :
    ∃ rn, nodeNew v (Src.ofList l) (start + enc.length - 1) = some rn ∧
      Decodes (Src.ofList l) rn n start (start + enc.length - 1) := by
  cases W with
  | any =>
    exact any_decodes v w l start n hvw wf.small wf.ntrans wf.sorted wf.targets
      wf.outs.1 wf.outs.2 wf.finOut hseg
  | next t ho ha => exact otn_decodes v l start t wf.pos ho ha hseg
  | one t =>
    obtain ⟨osize, tsize, il, ha, L⟩ := ot_lay wf.small (wf.outs.2 t List.mem_cons_self) hseg
    rw [ha]
    exact L.decodes v (wf.targets t List.mem_cons_self)

theorem codec_seg (v : Nat) (n : BNode) (lastAddr start : Nat) (enc l : List UInt8)
    (hv : 2 ≤ v ∨ n.trans.length ≤ Gen.TRANS_INDEX_THRESHOLD)
    (wf : WFNode n lastAddr start) (henc : compileNode n lastAddr start = some enc)
    (hseg : Seg l start enc) :
    enc ≠ [] ∧ ∃ rn, nodeNew v (Src.ofList l) (start + enc.length - 1) = some rn ∧
      Decodes (Src.ofList l) rn n start (start + enc.length - 1) :=
  have W := compileNode_written wf henc
  -- the shipped writer emits the index whenever a version-2 writer would: `W : Written 2 …`
  ⟨W.ne_nil, W.decodes (indexSize_agree (hv.imp (fun h => ⟨h, Nat.le_refl 2⟩) id |> Or.inr)) wf hseg⟩

theorem compileNode_isSome (n : BNode) (lastAddr start : Nat) (h : n.trans.length ≤ 256) :
    ∃ enc, compileNode n lastAddr start = some enc :=
  compileNode_eq_with n lastAddr start ▸ compileWith_isSome 2 _ n start h

theorem WFNode.ofBuilder {n : BNode} {lastAddr start sentinel : Nat}
    (ntrans : n.trans.length ≤ 256) (sorted : SortedInputs n)
    (targets : ∀ t ∈ n.trans, t.addr = 0 ∨ t.addr < start)
    (outs : n.fout < 2^64 ∧ ∀ t ∈ n.trans, t.out < 2^64)
    (small : start < 2^64) (pos : 0 < start) (notEmpty : isEmptyFinal n = false)
    (next : lastAddr = start - 1 ∨ lastAddr = sentinel)
    (notSentinel : ∀ t ∈ n.trans, t.addr ≠ sentinel)
    (finOut : n.fin = false → n.fout = 0) : WFNode n lastAddr start :=
  { ntrans, sorted, targets, outs, small, pos, notEmpty, finOut
    next := by
      rcases next with h | h
      · exact Or.inl h
      · exact Or.inr (fun t ht => h ▸ notSentinel t ht) }

/-- a final node with 40 transitions (index path), outputs and mixed targets -/
def exBig : BNode :=
  ⟨true, 77777, (List.range 40).map fun i =>
    ⟨UInt8.ofNat (3 * i + 1), 1000 * i, if i % 5 = 0 then 0 else 50 + 17 * i⟩⟩

theorem exBig_wf : WFNode exBig 99999 100000 where
  ntrans := by decide
  sorted := by unfold SortedInputs; decide +kernel
  targets := by decide +kernel
  outs := ⟨by decide, by decide +kernel⟩
  small := by decide
  pos := by decide
  notEmpty := by decide
  next := Or.inl rfl
  finOut := by decide

example : ∃ enc, compileNode exBig 99999 100000 = some enc ∧ WFNode exBig 99999 100000 ∧
    (2 ≤ 3 ∨ exBig.trans.length ≤ Gen.TRANS_INDEX_THRESHOLD) :=
  let ⟨enc, h⟩ := compileNode_isSome exBig 99999 100000 (by decide)
  ⟨enc, h, exBig_wf, Or.inl (by decide)⟩

example : WFNode ⟨false, 0, [⟨5, 0, 99⟩]⟩ 99 100 ∧
    compileNode ⟨false, 0, [⟨5, 0, 99⟩]⟩ 99 100 = some [5, 192] ∧
    WFNode ⟨false, 0, [⟨116, 300, 20⟩]⟩ 99 100 ∧
    compileNode ⟨false, 0, [⟨116, 300, 20⟩]⟩ 99 100 = some [44, 1, 80, 18, 129] := by
  refine ⟨⟨by decide, by unfold SortedInputs; decide, by decide, by decide, by decide, by decide,
    by decide, Or.inl rfl, by decide⟩, by decide +kernel,
    ⟨by decide, by unfold SortedInputs; decide, by decide, by decide, by decide, by decide,
    by decide, Or.inl rfl, by decide⟩, by decide +kernel⟩

theorem compileOTNc_flatten (b : UInt8) : (compileOTNc b).flatten = compileOTN b := by
  unfold compileOTNc compileOTN
  simp only [List.flatten_append, apply_ite List.flatten, List.flatten_cons, List.flatten_nil,
    List.append_nil]

theorem compileOTc_flatten (a : Nat) (t : Tr) : (compileOTc a t).flatten = compileOT a t := by
  unfold compileOTc compileOT
  simp only [List.flatten_append, apply_ite List.flatten, List.flatten_cons, List.flatten_nil,
    List.append_nil]
  by_cases h0 : t.out = 0
  · simp only [h0, if_true, packIn]
  · simp only [h0, if_false]

/- `flatten` is pushed through the appends and the `if`s; no case distinction on the conditions -/
theorem compileAnyc_flatten (a : Nat) (n : BNode) : (compileAnyc a n).flatten = compileAny a n := by
  unfold compileAnyc compileAny
  simp only [List.flatten_append, apply_ite List.flatten, List.flatten_cons, List.flatten_nil,
    List.append_nil, ← List.flatMap_def, ← List.map_eq_flatMap]

theorem compileNodeC_flatten (n : BNode) (lastAddr a : Nat) :
    (compileNodeC n lastAddr a).map List.flatten = compileNode n lastAddr a := by
  unfold compileNodeC compileNode
  simp only [apply_ite (Option.map List.flatten), Option.map_some, Option.map_none,
    compileAnyc_flatten, List.flatten_nil]
  -- what is left are the two `match`es on `n.trans`, in the last branch
  congr 3
  rcases n with ⟨f, fo, _ | ⟨t, _ | ⟨t', ts⟩⟩⟩
  · rfl
  · simp only [apply_ite (Option.map List.flatten), Option.map_some, compileOTNc_flatten,
      compileOTc_flatten]
  · rfl

/-- `es` = emitted nodes `(addr, node, encoding)`, laid out consecutively from byte offset `start`:
each is well-formed (for some `lastAddr`), `enc` is its `compileNode` output, its address is
that of its last byte, and it is readable by a version-`v` reader. -/
def Laid (v : Nat) : Nat → List (Nat × BNode × List UInt8) → Prop
  | _, [] => True
  | start, e :: rest =>
    (∃ last, WFNode e.2.1 last start ∧ compileNode e.2.1 last start = some e.2.2) ∧
    e.1 = start + e.2.2.length - 1 ∧
    (2 ≤ v ∨ e.2.1.trans.length ≤ Gen.TRANS_INDEX_THRESHOLD) ∧
    Laid v (start + e.2.2.length) rest

/-- consecutive layout from byte offset `start`, each emitted node satisfying `P` at its offset;
`OldVer.LaidV` is an instance, `Laid` is carried over by `laid_by` -/
def LaidBy (P : Nat → Nat × BNode × List UInt8 → Prop) : Nat → List (Nat × BNode × List UInt8) → Prop
  | _, [] => True
  | start, e :: rest =>
    P start e ∧ e.1 = start + e.2.2.length - 1 ∧ LaidBy P (start + e.2.2.length) rest

theorem laidBy_append {P : Nat → Nat × BNode × List UInt8 → Prop} :
    ∀ (A B : List (Nat × BNode × List UInt8)) (start : Nat),
    LaidBy P start (A ++ B) ↔ LaidBy P start A ∧ LaidBy P (start + (A.flatMap (·.2.2)).length) B
  | [], B, start => by simp [LaidBy]
  | x :: A, B, start => by
    simp only [List.cons_append, LaidBy, laidBy_append A B, List.flatMap_cons, List.length_append]
    rw [Nat.add_assoc]
    constructor
    · rintro ⟨h1, h2, h3, h4⟩; exact ⟨⟨h1, h2, h3⟩, h4⟩
    · rintro ⟨⟨h1, h2, h3⟩, h4⟩; exact ⟨h1, h2, h3, h4⟩

theorem laidBy_mem {P : Nat → Nat × BNode × List UInt8 → Prop} (es : List (Nat × BNode × List UInt8))
    (start : Nat) (pre post : List UInt8) (hpre : pre.length = start) (hl : LaidBy P start es)
    (e : Nat × BNode × List UInt8) (he : e ∈ es) :
    ∃ st, Seg (pre ++ es.flatMap (·.2.2) ++ post) st e.2.2 ∧ P st e ∧ e.1 = st + e.2.2.length - 1 := by
  obtain ⟨A, B, rfl⟩ := List.append_of_mem he
  obtain ⟨h1, h2, _⟩ := ((laidBy_append A (e :: B) start).mp hl).2
  exact ⟨_, ⟨pre ++ A.flatMap (·.2.2), B.flatMap (·.2.2) ++ post, by simp, by simp [hpre]⟩, h1, h2⟩

theorem laid_by (v : Nat) : ∀ (es : List (Nat × BNode × List UInt8)) (start : Nat), Laid v start es →
    LaidBy (fun st e => (∃ last, WFNode e.2.1 last st ∧ compileNode e.2.1 last st = some e.2.2) ∧
      (2 ≤ v ∨ e.2.1.trans.length ≤ Gen.TRANS_INDEX_THRESHOLD)) start es
  | [], _, _ => trivial
  | _ :: rest, _, ⟨h1, h2, h3, h4⟩ => ⟨⟨h1, h3⟩, h2, laid_by v rest _ h4⟩

theorem laid_mem (v : Nat) (es : List (Nat × BNode × List UInt8)) (start : Nat)
    (pre post : List UInt8) (hpre : pre.length = start) (hl : Laid v start es)
    (e : Nat × BNode × List UInt8) (he : e ∈ es) :
    ∃ st, Seg (pre ++ es.flatMap (·.2.2) ++ post) st e.2.2 ∧
      (∃ last, WFNode e.2.1 last st ∧ compileNode e.2.1 last st = some e.2.2) ∧
      e.1 = st + e.2.2.length - 1 ∧ (2 ≤ v ∨ e.2.1.trans.length ≤ Gen.TRANS_INDEX_THRESHOLD) :=
  let ⟨st, h1, h2, h3⟩ := laidBy_mem es start pre post hpre (laid_by v es start hl) e he
  ⟨st, h1, h2.1, h3, h2.2⟩

theorem lookup_map_mem {es : List (Nat × BNode × List UInt8)} {a : Nat} {n : BNode}
    (h : (es.map fun e => (e.1, e.2.1)).lookup a = some n) : ∃ e ∈ es, e.1 = a ∧ e.2.1 = n := by
  induction es with
  | nil => cases h
  | cons e rest ih =>
    rw [List.map_cons, List.lookup_cons] at h
    split at h
    · rename_i heq
      exact ⟨e, List.mem_cons_self, (by simpa using heq : a = e.1).symm, by simpa using h⟩
    · obtain ⟨e', he', h'⟩ := ih h
      exact ⟨e', List.mem_cons_of_mem _ he', h'⟩

/-- store level, any writer: the version-`v` node access over `header ++ encodings ++ post` returns
exactly the nodes of the store -/
theorem represents_of_laidBy (v : Nat) {P : Nat → Nat × BNode × List UInt8 → Prop}
    (hP : ∀ st e, P st e → ∃ w last, WFNode e.2.1 last st ∧ Written w st e.2.1 e.2.2 ∧
      indexSize v e.2.1.trans.length = indexSize w e.2.1.trans.length)
    (es : List (Nat × BNode × List UInt8)) (header post : List UInt8)
    (hl : LaidBy P header.length es) :
    Represents (byteAccess v (Src.ofList (header ++ es.flatMap (·.2.2) ++ post)))
      (es.map fun e => (e.1, e.2.1)) := by
  constructor
  intro a n hn
  unfold nodeAt at hn
  split at hn
  · rename_i ha
    subst ha
    injection hn with hn
    subst hn
    refine ⟨RNode.emptyFinal v, by simp [byteAccess, nodeNew, EMPTY_ADDRESS], rfl, rfl, rfl, rfl,
      ?_, ?_⟩
    · intro i hi; simp at hi
    · intro b; rfl
  · obtain ⟨e, he, rfl, rfl⟩ := lookup_map_mem hn
    obtain ⟨st, hseg, hp, haddr⟩ := laidBy_mem es _ header post rfl hl e he
    obtain ⟨w, last, wf, W, hvw⟩ := hP st e hp
    obtain ⟨rn, hrn, D⟩ := W.decodes hvw wf hseg
    rw [← haddr] at hrn D
    exact ⟨rn, hrn, D.start_eq, D.fin, D.fout, D.ntrans, D.trans, D.find⟩

theorem byteAccess_represents (v : Nat) (es : List (Nat × BNode × List UInt8))
    (header post : List UInt8) (hl : Laid v header.length es) :
    Represents (byteAccess v (Src.ofList (header ++ es.flatMap (·.2.2) ++ post)))
      (es.map fun e => (e.1, e.2.1)) :=
  represents_of_laidBy v (fun _ _ ⟨⟨last, wf, henc⟩, hv⟩ => ⟨2, last, wf, compileNode_written wf henc,
    indexSize_agree (Or.inr (hv.imp (fun h => ⟨h, Nat.le_refl 2⟩) id))⟩) es header post
    (laid_by v es _ hl)

end Fst
