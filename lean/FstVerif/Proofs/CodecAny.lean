import FstVerif.Proofs.CodecOne
import FstVerif.Spec.Encode
/-
The `StateAnyTrans` form as a version-`w` encoder writes it (`Spec.compileAnyV w`; the shipped
`compileAny` is every `w ≥ 2`) and a version-`v` reader reads it, whenever the two agree on the index
(`indexSize v k = indexSize w k`): layout of the written bytes (`AnyLay`), then `Node::new`, the i-th
transition, `find_input` by scan and by index.
-/
namespace Fst

theorem foldl_max_le_iff {α : Type} (f : α → Nat) (ts : List α) (m B : Nat) :
    ts.foldl (fun m t => max m (f t)) m ≤ B ↔ m ≤ B ∧ ∀ t ∈ ts, f t ≤ B := by
  induction ts generalizing m with
  | nil => simp
  | cons u ts ih => rw [List.foldl_cons, ih, Nat.max_le]; simp [and_assoc]

theorem foldl_max_ge_mem {α : Type} (f : α → Nat) (ts : List α) (m : Nat) (t : α) (ht : t ∈ ts) :
    f t ≤ ts.foldl (fun m t => max m (f t)) m :=
  ((foldl_max_le_iff f ts m _).mp (Nat.le_refl _)).2 t ht

theorem anyTsize_le (start : Nat) (n : BNode) : anyTsize start n ≤ 8 :=
  (foldl_max_le_iff _ _ _ _).mpr ⟨by decide, fun _ _ => packSize_le _⟩

theorem le_anyTsize (start : Nat) (n : BNode) (t : Tr) (ht : t ∈ n.trans) :
    packSize (deltaVal start t.addr) ≤ anyTsize start n :=
  foldl_max_ge_mem (fun t : Tr => packSize (deltaVal start t.addr)) _ _ t ht

theorem anyOsize_le (n : BNode) : anyOsize n ≤ 8 :=
  (foldl_max_le_iff _ _ _ _).mpr ⟨packSize_le _, fun _ _ => packSize_le _⟩

theorem fout_le_anyOsize (n : BNode) : packSize n.fout ≤ anyOsize n :=
  ((foldl_max_le_iff (fun t : Tr => packSize t.out) _ _ _).mp (Nat.le_refl _)).1

theorem anyOsize_pos (n : BNode) : 1 ≤ anyOsize n :=
  Nat.le_trans (packSize_pos n.fout) (fout_le_anyOsize n)

theorem le_anyOsize (n : BNode) (t : Tr) (ht : t ∈ n.trans) : packSize t.out ≤ anyOsize n :=
  foldl_max_ge_mem (fun t : Tr => packSize t.out) _ _ t ht

/-- the output width the reader will see -/
def aO (n : BNode) : Nat := if anyOuts n then anyOsize n else 0
/-- the transition count stored in the state byte (0 = see the extra byte) -/
def aSn (n : BNode) : Nat := if n.trans.length % 256 ≤ 63 then n.trans.length % 256 else 0
/-- the extra count byte, present when the state byte holds 0 (256 is written as 1) -/
def aNb (n : BNode) : List UInt8 :=
  if aSn n = 0 then [if n.trans.length = 256 then 1 else UInt8.ofNat n.trans.length] else []
/-- the index bytes a version-`w` writer emits -/
def aIdx (w : Nat) (n : BNode) : List UInt8 :=
  if w ≥ 2 ∧ n.trans.length > Gen.TRANS_INDEX_THRESHOLD then buildIndex n.trans else []

theorem aO_le (n : BNode) : aO n ≤ 8 := by
  unfold aO; split
  · exact anyOsize_le n
  · omega

theorem aO_zero {n : BNode} (h : aO n = 0) : n.fout = 0 ∧ ∀ t ∈ n.trans, t.out = 0 := by
  unfold aO at h
  split at h
  · have := anyOsize_pos n; omega
  · rename_i ha
    simp only [anyOuts, Bool.or_eq_true, bne_iff_ne, ne_eq, List.any_eq_true, not_or, not_exists,
      not_and, Decidable.not_not] at ha
    exact ha

theorem aO_fits {n : BNode} {x : Nat} (hx : x < 2 ^ 64) (hle : packSize x ≤ anyOsize n)
    (h0 : aO n = 0 → x = 0) : x < 256 ^ aO n := by
  by_cases h : anyOuts n = true
  · rw [aO, if_pos h]
    exact Nat.lt_of_lt_of_le (lt_pow_packSize _ hx) (pow256_mono hle)
  · have hz : aO n = 0 := by rw [aO, if_neg h]
    rw [hz, h0 hz]; decide

/-- the encoder writes the output fields only if some output is non-zero. With the width `aO`
both cases are one layout: a `packIn` of width 0 is empty. -/
theorem compileAnyV_eq (w start : Nat) (n : BNode) :
    Spec.compileAnyV w start n =
      (if n.fin then packIn n.fout (aO n) else []) ++
      n.trans.reverse.flatMap (fun t => packIn t.out (aO n)) ++
      n.trans.reverse.flatMap (fun t => packIn (deltaVal start t.addr) (anyTsize start n)) ++
      n.trans.reverse.map (·.inp) ++ aIdx w n ++
      [UInt8.ofNat (anyTsize start n * 16 + aO n)] ++ aNb n ++
      [UInt8.ofNat ((if n.fin then 64 else 0) + aSn n)] := by
  unfold Spec.compileAnyV aO aNb aIdx aSn
  cases anyOuts n <;> simp [packIn]

theorem nodeNew_any {v : Nat} {d : Src} {addr s sz nlen ntrans fout : Nat} {vb szb : UInt8}
    (h0 : addr ≠ 0) (hg : d.get addr = some vb) (hs : vb.toNat = s) (htop : s / 64 < 2)
    (hnlen : nlen = if s % 64 = 0 then 1 else 0)
    (hgz : d.get (addr - nlen - 1) = some szb) (hsz : szb.toNat = sz)
    (hnt : (s % 64 ≠ 0 ∧ ntrans = s % 64) ∨ (s % 64 = 0 ∧ ∃ nb, d.get (addr - 1) = some nb ∧
              ntrans = if nb.toNat = 1 then 256 else nb.toNat))
    (hfo : (if sz % 16 = 0 ∨ (!(decide (s / 64 % 2 = 1))) = true then some 0 else
        d.unpackChecked (addr - nlen - 1 - (ntrans + ntrans * (sz / 16) + indexSize v ntrans)
          - ntrans * (sz % 16) - sz % 16) (sz % 16)) = some fout) :
    nodeNew v d addr = some (mkAny v s addr
      (addr - nlen - 1 - (ntrans + ntrans * (sz / 16) + indexSize v ntrans) - ntrans * (sz % 16)
        - (if s / 64 % 2 = 1 then sz % 16 else 0))
      (decide (s / 64 % 2 = 1)) ntrans (sz / 16) (sz % 16) fout) := by
  subst hs hsz
  have h3 : ¬ vb.toNat / 64 = 3 := Nat.ne_of_lt (Nat.lt_succ_of_lt htop)
  have h2 : ¬ vb.toNat / 64 = 2 := Nat.ne_of_lt htop
  -- `nlen` stays a variable (`← hnlen`), so that `hfo` fits the goal as it stands
  simp only [nodeNew, EMPTY_ADDRESS, h0, if_false, hg, h3, h2, ← hnlen, hgz, mkAny]
  rcases hnt with ⟨hn0, rfl⟩ | ⟨hn0, nb, hnb, rfl⟩
  · simp only [hn0, ne_eq, not_false_eq_true, if_true, hfo]
  · simp only [hn0, ne_eq, not_true_eq_false, if_false, hnb, hfo]

/-- offset of the sizes byte -/
def anyP (w start : Nat) (n : BNode) : Nat :=
  start + (if n.fin then aO n else 0) + n.trans.length * aO n
    + n.trans.length * anyTsize start n + n.trans.length + (aIdx w n).length
/-- address of the node (offset of the state byte) -/
def anyAddr (w start : Nat) (n : BNode) : Nat := anyP w start n + 1 + (aNb n).length
/-- the state byte: tag `0b00`, 64 = the final bit, low six bits `aSn` -/
def anyS (n : BNode) : Nat := (if n.fin then 64 else 0) + aSn n

/-- the fields of a `StateAnyTrans` node written at `start` by a version-`w` writer, in file
order: final output, outputs, deltas, inputs (each reversed), index, sizes byte, count byte,
state byte -/
structure AnyLay (w : Nat) (l : List UInt8) (start : Nat) (n : BNode) : Prop where
  sFout : Seg l start (if n.fin then packIn n.fout (aO n) else [])
  sOuts : Seg l (start + (if n.fin then aO n else 0))
    (n.trans.reverse.flatMap fun t => packIn t.out (aO n))
  sAddrs : Seg l (start + (if n.fin then aO n else 0) + n.trans.length * aO n)
    (n.trans.reverse.flatMap fun t => packIn (deltaVal start t.addr) (anyTsize start n))
  sInps : Seg l (start + (if n.fin then aO n else 0) + n.trans.length * aO n
    + n.trans.length * anyTsize start n) (n.trans.reverse.map (·.inp))
  sIdx : Seg l (start + (if n.fin then aO n else 0) + n.trans.length * aO n
    + n.trans.length * anyTsize start n + n.trans.length) (aIdx w n)
  sSz : l[anyP w start n]? = some (UInt8.ofNat (anyTsize start n * 16 + aO n))
  sNb : Seg l (anyP w start n + 1) (aNb n)
  sSb : l[anyAddr w start n]? = some (UInt8.ofNat (anyS n))

theorem fout_part_length (n : BNode) :
    (if n.fin then packIn n.fout (aO n) else []).length = if n.fin then aO n else 0 := by
  split <;> simp [packIn_length]

theorem packs_length (ts : List Tr) (f : Tr → Nat) (k : Nat) :
    (ts.reverse.flatMap fun t => packIn (f t) k).length = ts.length * k := by
  rw [length_flatMap_const _ _ k (fun t _ => packIn_length (f t) k), List.length_reverse]

theorem any_lay {w : Nat} {l : List UInt8} {start : Nat} {n : BNode}
    (h : Seg l start (Spec.compileAnyV w start n)) : AnyLay w l start n := by
  rw [compileAnyV_eq] at h
  obtain ⟨h, h8⟩ := seg_append h
  obtain ⟨h, h7⟩ := seg_append h
  obtain ⟨h, h6⟩ := seg_append h
  obtain ⟨h, h5⟩ := seg_append h
  obtain ⟨h, h4⟩ := seg_append h
  obtain ⟨h, h3⟩ := seg_append h
  obtain ⟨h1, h2⟩ := seg_append h
  -- with the sums flattened the offsets are those of `AnyLay`, `anyP` and `anyAddr` as written
  simp only [List.length_append, fout_part_length, List.length_map, List.length_reverse,
    List.length_cons, List.length_nil, packs_length, Nat.zero_add, ← Nat.add_assoc]
    at h2 h3 h4 h5 h6 h7 h8
  exact ⟨h1, h2, h3, h4, h5, seg_single h6, h7, seg_single h8⟩

theorem aSn_le (n : BNode) : aSn n ≤ 63 := by
  unfold aSn; split <;> omega

theorem anyS_lt (n : BNode) : anyS n < 128 := by
  have := aSn_le n; unfold anyS; split <;> omega

theorem anyS_div (n : BNode) : anyS n / 64 = if n.fin then 1 else 0 := by
  have := aSn_le n; unfold anyS; split <;> omega

theorem anyS_mod (n : BNode) : anyS n % 64 = aSn n := by
  have := aSn_le n; unfold anyS; split <;> omega

theorem aNb_length (n : BNode) : (aNb n).length = if aSn n = 0 then 1 else 0 := by
  unfold aNb; split <;> rfl

theorem aIdx_length (w : Nat) (n : BNode) : (aIdx w n).length = indexSize w n.trans.length := by
  unfold aIdx indexSize; split
  · exact buildIndex_length _
  · rfl

theorem indexSize_agree {v w k : Nat} (h : v = w ∨ (2 ≤ v ∧ 2 ≤ w) ∨ k ≤ Gen.TRANS_INDEX_THRESHOLD) :
    indexSize v k = indexSize w k := by
  unfold indexSize
  rcases h with rfl | h | h
  · rfl
  · simp only [ge_iff_le, h.1, h.2, true_and]
  · simp only [show ¬ k > Gen.TRANS_INDEX_THRESHOLD by omega, and_false]

theorem mul_split {K i k : Nat} (hi : i < K) : K * k = (K - 1 - i) * k + i * k + k := by
  have : K = (K - 1 - i) + i + 1 := by omega
  conv => lhs; rw [this]
  rw [Nat.add_mul, Nat.add_mul, Nat.one_mul]

theorem AnyLay.inp {w : Nat} {l : List UInt8} {start : Nat} {n : BNode} (L : AnyLay w l start n)
    {i : Nat} (hi : i < n.trans.length) :
    l[start + (if n.fin then aO n else 0) + n.trans.length * aO n
      + n.trans.length * anyTsize start n + (n.trans.length - 1 - i)]? = some n.trans[i].inp := by
  rw [seg_get L.sInps (n.trans.length - 1 - i) (by simp; omega)]
  simp only [List.getElem_map, rev_get n.trans i hi]

theorem AnyLay.out {w : Nat} {l : List UInt8} {start : Nat} {n : BNode} (L : AnyLay w l start n)
    (houts : ∀ t ∈ n.trans, t.out < 2 ^ 64) {i : Nat} (hi : i < n.trans.length) :
    Seg l (start + (if n.fin then aO n else 0) + (n.trans.length - 1 - i) * aO n)
      (packIn n.trans[i].out (aO n)) ∧ n.trans[i].out < 256 ^ aO n :=
  have hmem := List.getElem_mem hi
  ⟨seg_flatMap_rev L.sOuts (fun t _ => packIn_length t.out (aO n)) i hi, aO_fits (houts _ hmem) (le_anyOsize n _ hmem) fun h => (aO_zero h).2 _ hmem⟩

theorem AnyLay.delta {w : Nat} {l : List UInt8} {start : Nat} {n : BNode} (L : AnyLay w l start n)
    (hsmall : start < 2 ^ 64) {i : Nat} (hi : i < n.trans.length) :
    Seg l (start + (if n.fin then aO n else 0) + n.trans.length * aO n
        + (n.trans.length - 1 - i) * anyTsize start n)
      (packIn (deltaVal start n.trans[i].addr) (anyTsize start n)) ∧
    deltaVal start n.trans[i].addr < 256 ^ anyTsize start n ∧ 1 ≤ anyTsize start n :=
  have hle := le_anyTsize start n _ (List.getElem_mem hi)
  ⟨seg_flatMap_rev L.sAddrs (fun t _ => packIn_length (deltaVal start t.addr) (anyTsize start n)) i hi,
    Nat.lt_of_lt_of_le (lt_pow_packSize _ (deltaVal_lt hsmall)) (pow256_mono hle),
    Nat.le_trans (packSize_pos _) hle⟩

theorem AnyLay.fout {w : Nat} {l : List UInt8} {start : Nat} {n : BNode} (L : AnyLay w l start n)
    (hf : n.fin = true) (hfo : n.fout < 2 ^ 64) :
    Seg l start (packIn n.fout (aO n)) ∧ n.fout < 256 ^ aO n :=
  ⟨by have := L.sFout; rwa [if_pos hf] at this,
    aO_fits hfo (fout_le_anyOsize n) fun h => (aO_zero h).1⟩

/- The reader goes backwards from the node's address with truncated subtractions; these equations
turn each of its offsets into the forward offset of `AnyLay`. -/

theorem anyAddr_sizes (w start : Nat) (n : BNode) :
    anyAddr w start n - (aNb n).length - 1 = anyP w start n := by
  simp only [anyAddr]; omega

theorem compileAnyV_addr (w start : Nat) (n : BNode) :
    start + (Spec.compileAnyV w start n).length - 1 = anyAddr w start n := by
  rw [compileAnyV_eq]
  simp only [List.length_append, fout_part_length, List.length_map, List.length_reverse,
    List.length_cons, List.length_nil, packs_length, anyAddr, anyP]
  omega

/-- the same for a reader that computes the first byte from the sizes byte and the body length
(`Spec.parseNode`) -/
theorem anyAddr_body (w start : Nat) (n : BNode) :
    1 ≤ anyAddr w start n - (aNb n).length ∧
    1 + ((aIdx w n).length + n.trans.length + n.trans.length * anyTsize start n
      + n.trans.length * aO n + (if n.fin then aO n else 0)) ≤ anyAddr w start n - (aNb n).length ∧
    anyAddr w start n - (aNb n).length - 1 - ((aIdx w n).length + n.trans.length
      + n.trans.length * anyTsize start n + n.trans.length * aO n + (if n.fin then aO n else 0))
      = start := by
  simp only [anyAddr, Nat.add_sub_cancel, anyP]; omega

theorem anyAddr_pos (w start : Nat) (n : BNode) : anyAddr w start n ≠ 0 := by
  simp only [anyAddr, anyP]; omega

theorem anyP_input (w start : Nat) (n : BNode) {i : Nat} (hi : i < n.trans.length) :
    anyP w start n - (aIdx w n).length - i - 1
      = start + (if n.fin then aO n else 0) + n.trans.length * aO n
        + n.trans.length * anyTsize start n + (n.trans.length - 1 - i) := by
  simp only [anyP]; omega

theorem anyP_output (w start : Nat) (n : BNode) {i : Nat} (hi : i < n.trans.length) :
    anyP w start n - (n.trans.length + n.trans.length * anyTsize start n + (aIdx w n).length)
        - i * aO n - aO n
      = start + (if n.fin then aO n else 0) + (n.trans.length - 1 - i) * aO n := by
  have := mul_split (k := aO n) hi
  simp only [anyP]; omega

theorem anyP_delta (w start : Nat) (n : BNode) {i : Nat} (hi : i < n.trans.length) :
    anyP w start n - (aIdx w n).length - n.trans.length - i * anyTsize start n - anyTsize start n
      = start + (if n.fin then aO n else 0) + n.trans.length * aO n
        + (n.trans.length - 1 - i) * anyTsize start n := by
  have := mul_split (k := anyTsize start n) hi
  simp only [anyP]; omega

theorem anyP_first (w start : Nat) (n : BNode) :
    anyP w start n - (n.trans.length + n.trans.length * anyTsize start n + (aIdx w n).length)
        - n.trans.length * aO n - (if n.fin then aO n else 0) = start := by
  simp only [anyP]; omega

theorem anyP_index (w start : Nat) (n : BNode) (b : Nat) :
    anyP w start n - (aIdx w n).length + b
      = start + (if n.fin then aO n else 0) + n.trans.length * aO n
        + n.trans.length * anyTsize start n + n.trans.length + b := by
  rw [anyP, Nat.add_sub_cancel]

theorem anyP_scan (w start : Nat) (n : BNode) (h : (aIdx w n).length = 0) :
    anyP w start n - n.trans.length
      = start + (if n.fin then aO n else 0) + n.trans.length * aO n
        + n.trans.length * anyTsize start n := by
  simp only [anyP]; omega

/-- what `Node::new` of a version-`v` reader returns at `anyAddr w start n` (`any_nodeNew`) -/
def anyRn (v w start : Nat) (n : BNode) : RNode :=
  mkAny v (anyS n) (anyAddr w start n) start n.fin n.trans.length (anyTsize start n) (aO n) n.fout

theorem anyRn_nlen (v w start : Nat) (n : BNode) : (anyRn v w start n).nlen = (aNb n).length := by
  simp only [RNode.nlen, anyRn, mkAny, anyS_mod, aNb_length]

theorem any_input {v w : Nat} {l : List UInt8} {start : Nat} {n : BNode} (L : AnyLay w l start n)
    (hX : indexSize v n.trans.length = (aIdx w n).length) (i : Nat) (hi : i < n.trans.length) :
    (anyRn v w start n).input (Src.ofList l) i = some n.trans[i].inp := by
  simp only [RNode.input, anyRn_nlen v w start n]
  simp only [anyRn, mkAny, hX, get_ofList]
  rw [anyAddr_sizes, anyP_input w start n hi, L.inp hi]

theorem any_output {v w : Nat} {l : List UInt8} {start : Nat} {n : BNode} (L : AnyLay w l start n)
    (hX : indexSize v n.trans.length = (aIdx w n).length)
    (houts : ∀ t ∈ n.trans, t.out < 2 ^ 64) (i : Nat) (hi : i < n.trans.length) :
    (anyRn v w start n).output (Src.ofList l) i = some n.trans[i].out := by
  simp only [RNode.output, anyRn_nlen v w start n]
  simp only [anyRn, mkAny, hX]
  by_cases h0 : aO n = 0
  · simp only [h0, if_true, (aO_zero h0).2 _ (List.getElem_mem hi)]
  · rw [if_neg h0, anyAddr_sizes, anyP_output w start n hi]
    exact seg_unpackChecked (L.out houts hi).1 (L.out houts hi).2 (by omega) (aO_le n)

theorem any_transAddr {v w : Nat} {l : List UInt8} {start : Nat} {n : BNode} (L : AnyLay w l start n)
    (hX : indexSize v n.trans.length = (aIdx w n).length)
    (hsmall : start < 2 ^ 64) (htgt : ∀ t ∈ n.trans, t.addr = 0 ∨ t.addr < start)
    (i : Nat) (hi : i < n.trans.length) :
    (anyRn v w start n).transAddr (Src.ofList l) i = some n.trans[i].addr := by
  obtain ⟨hs, hb, h1⟩ := L.delta hsmall hi
  simp only [RNode.transAddr, anyRn_nlen v w start n, unpackDelta]
  simp only [anyRn, mkAny, hX]
  rw [if_neg (by omega), anyAddr_sizes, anyP_delta w start n hi,
    seg_unpackChecked hs hb h1 (anyTsize_le start n)]
  simp only [Option.map_some, delta_back (htgt _ (List.getElem_mem hi))]

/-- strictly increasing inputs grow at least with the position -/
theorem sorted_gap {n : BNode} (hs : SortedInputs n) {i j : Nat} (hij : i ≤ j)
    (hj : j < n.trans.length) : n.trans[i].inp.toNat + (j - i) ≤ n.trans[j].inp.toNat := by
  induction j with
  | zero =>
    have : i = 0 := by omega
    subst this; simp
  | succ j ih =>
    obtain rfl | hlt := Nat.eq_or_lt_of_le hij
    · simp
    · have hle := Nat.le_of_lt_succ hlt
      -- after the rewrite the goal is `_ + (j - i + 1) ≤ _`, which is `_ + (j - i) < _`
      rw [Nat.succ_sub hle]
      exact Nat.lt_of_le_of_lt (ih hle (by omega)) (UInt8.lt_iff_toNat_lt.mp
        (List.pairwise_iff_getElem.mp hs j (j + 1) (by omega) hj (by omega)))

theorem sorted_full {n : BNode} (hs : SortedInputs n) (hK : n.trans.length = 256) (b : UInt8) :
    transIdx n b = some b.toNat := by
  have hb := UInt8.toNat_lt b
  have hlt : b.toNat < n.trans.length := hK ▸ hb
  rw [transIdx_some_iff hs]
  refine ⟨hlt, ?_⟩
  have h1 := sorted_gap hs (Nat.zero_le _) hlt
  have h2 := sorted_gap hs (Nat.le_of_lt_succ hb) (hK ▸ by decide)
  -- the index bound given: left to the default tactic it is found only after much else has failed
  have h3 := UInt8.toNat_lt (n.trans[255]'(hK ▸ by decide)).inp
  exact UInt8.toNat_inj.mp (by omega)

theorem any_find_index {v w : Nat} {l : List UInt8} {start : Nat} {n : BNode} (L : AnyLay w l start n)
    (hX : indexSize v n.trans.length = (aIdx w n).length)
    (hK : v ≥ 2 ∧ n.trans.length > Gen.TRANS_INDEX_THRESHOLD) (hs : SortedInputs n)
    (h256 : n.trans.length ≤ 256) (b : UInt8) :
    (anyRn v w start n).findInput (Src.ofList l) b = some (transIdx n b) := by
  have hn := anyRn_nlen v w start n
  have hX' : (aIdx w n).length = 256 := by rw [← hX, indexSize, if_pos hK]
  have hidx : aIdx w n = buildIndex n.trans := by
    unfold aIdx at hX' ⊢; split
    · rfl
    · rename_i h; rw [if_neg h] at hX'; cases hX'
  simp only [RNode.findInput, hn]
  simp only [anyRn, mkAny, hX, get_ofList]
  rw [if_pos hK, anyAddr_sizes, anyP_index,
    seg_get? L.sIdx b.toNat _ (by rw [hidx]; exact buildIndex_get n hs b)]
  cases ht : transIdx n b with
  | none =>
    -- the index holds 255 for an absent byte and the reader tests `255 ≥ ntrans`: ambiguous only
    -- in a node with 256 transitions, and such a node has every byte (`sorted_full`)
    have : n.trans.length ≠ 256 := by
      intro h; rw [sorted_full hs h b] at ht; cases ht
    have h255 : (255 : UInt8).toNat = 255 := rfl
    simp only [h255]
    rw [if_pos (Nat.le_of_lt_succ (Nat.lt_of_le_of_ne h256 this))]
  | some j =>
    have hj := transIdx_lt ht
    simp only [toNat_ofNat_lt (Nat.lt_of_lt_of_le hj h256)]
    rw [if_neg (Nat.not_le.mpr hj)]

theorem scanPos_seg {l : List UInt8} {s : Nat} {xs : List UInt8} (h : Seg l s xs) (b : UInt8) (k : Nat) :
    scanPos (Src.ofList l) b s xs.length k = some ((xs.findIdx? (· == b)).map (· + k)) := by
  induction xs generalizing s k with
  | nil => rfl
  | cons x xs ih =>
    obtain ⟨h1, h2⟩ := seg_cons h
    simp only [List.length_cons, scanPos, get_ofList, h1, List.findIdx?_cons]
    by_cases hx : x = b
    · simp [hx]
    · -- `==` on `UInt8` is `decide (_ = _)`
      have hx' : (x == b) = false := decide_eq_false hx
      rw [if_neg hx, ih h2, hx']
      cases xs.findIdx? (· == b) with
      | none => rfl
      | some j => simp only [Option.map_some, Bool.false_eq_true, if_false, Nat.add_assoc, Nat.add_comm 1 k]

theorem rev_findIdx {n : BNode} (hs : SortedInputs n) (b : UInt8) :
    (n.trans.reverse.map (·.inp)).findIdx? (· == b)
      = (transIdx n b).map (fun i => n.trans.length - 1 - i) := by
  cases ht : transIdx n b with
  | none =>
    rw [transIdx_none_iff] at ht
    rw [Option.map_none, List.findIdx?_eq_none_iff]
    intro x hx
    obtain ⟨t, ht', rfl⟩ := List.mem_map.mp hx
    -- `==` on `UInt8` is `decide (_ = _)`; the `LawfulBEq` lemmas cost an instance search each
    exact decide_eq_false (ht t (List.mem_reverse.mp ht'))
  | some i =>
    obtain ⟨hi, hb⟩ := (transIdx_some_iff hs).mp ht
    rw [Option.map_some, List.findIdx?_eq_some_iff_getElem]
    refine ⟨by simp; omega, ?_, ?_⟩
    · rw [List.getElem_map, rev_get n.trans i hi, hb]
      exact decide_eq_true rfl
    · intro j hj hc
      have hc := of_decide_eq_true hc
      rw [List.getElem_map, List.getElem_reverse] at hc
      have := sorted_inj hs (by omega) hi (hc.trans hb.symm)
      omega

theorem any_find_scan {v w : Nat} {l : List UInt8} {start : Nat} {n : BNode} (L : AnyLay w l start n)
    (hX : indexSize v n.trans.length = (aIdx w n).length)
    (hc : ¬ (v ≥ 2 ∧ n.trans.length > Gen.TRANS_INDEX_THRESHOLD)) (hs : SortedInputs n) (b : UInt8) :
    (anyRn v w start n).findInput (Src.ofList l) b = some (transIdx n b) := by
  have hn := anyRn_nlen v w start n
  have hX' : (aIdx w n).length = 0 := by rw [← hX, indexSize, if_neg hc]
  simp only [RNode.findInput, hn]
  simp only [anyRn, mkAny, hc, if_false]
  have := scanPos_seg L.sInps b 0
  simp only [List.length_map, List.length_reverse] at this
  rw [anyAddr_sizes, anyP_scan w start n hX', this, rev_findIdx hs]
  cases ht : transIdx n b with
  | none => rfl
  | some i =>
    have hi := transIdx_lt ht
    simp only [Option.map_some, Nat.add_zero]
    -- `K - (K - 1 - i) - 1 = K - 1 - (K - 1 - i) = i`
    rw [Nat.sub_right_comm, Nat.sub_sub_self (Nat.le_sub_one_of_lt hi)]

theorem any_ntrans {w : Nat} {l : List UInt8} {start : Nat} {n : BNode} (L : AnyLay w l start n)
    (h256 : n.trans.length ≤ 256) :
    (anyS n % 64 ≠ 0 ∧ n.trans.length = anyS n % 64) ∨
    (anyS n % 64 = 0 ∧ ∃ nb, (Src.ofList l).get (anyAddr w start n - 1) = some nb ∧
      n.trans.length = if nb.toNat = 1 then 256 else nb.toNat) := by
  rw [anyS_mod]
  have hA : aSn n = n.trans.length % 256 ∨ aSn n = 0 ∧ 63 < n.trans.length % 256 :=
    (Decidable.em _).imp (if_pos ·) fun h => ⟨if_neg h, Nat.lt_of_not_le h⟩
  by_cases h0 : aSn n = 0
  · right
    refine ⟨h0, ?_⟩
    have hnb : aNb n = [if n.trans.length = 256 then 1 else UInt8.ofNat n.trans.length] := if_pos h0
    have hg := hnb ▸ L.sNb
    refine ⟨_, seg_single (seg_cast hg (by simp only [anyAddr, hnb, List.length_cons, List.length_nil]; omega)), ?_⟩
    by_cases hK : n.trans.length = 256
    · rw [if_pos hK]; exact hK
    · rw [if_neg hK, toNat_ofNat_lt (by omega), if_neg (by omega)]
  · exact Or.inl ⟨h0, by omega⟩

theorem anyS_ge (n : BNode) : 64 ≤ anyS n ↔ n.fin = true := by
  have := aSn_le n
  unfold anyS
  cases n.fin with
  | false => simp only [Bool.false_eq_true, if_false, iff_false]; omega
  | true => simp only [if_true, iff_true]; omega

theorem anyS_fin (n : BNode) : anyS n / 64 % 2 = 1 ↔ n.fin = true := by
  rw [anyS_div]; cases n.fin <;> simp

theorem any_nodeNew {v w : Nat} {l : List UInt8} {start : Nat} {n : BNode} (L : AnyLay w l start n)
    (hX : indexSize v n.trans.length = (aIdx w n).length)
    (h256 : n.trans.length ≤ 256) (hfo : n.fout < 2 ^ 64) (hfin : n.fin = false → n.fout = 0) :
    nodeNew v (Src.ofList l) (anyAddr w start n) = some (anyRn v w start n) := by
  have hO := aO_le n
  obtain ⟨hsz, hd, hm⟩ := sizes_byte (anyTsize_le start n) hO
  have hS := anyS_lt n
  have hmain := nodeNew_any (v := v) (d := Src.ofList l) (addr := anyAddr w start n) (s := anyS n)
    (sz := anyTsize start n * 16 + aO n) (nlen := (aNb n).length) (ntrans := n.trans.length)
    (fout := n.fout) (h0 := anyAddr_pos w start n) (hg := L.sSb)
    (hs := toNat_ofNat_lt (Nat.lt_trans hS (by decide))) (htop := Nat.div_lt_of_lt_mul hS)
    (hnlen := by rw [aNb_length, anyS_mod])
    (hgz := by rw [anyAddr_sizes]; exact L.sSz) (hsz := hsz)
    (hnt := any_ntrans L h256)
    (hfo := by
      -- the final output: 0 unless the node is final with a non-zero output size, else read at the node's first byte
      simp only [hd, hm, anyS_fin, Bool.decide_eq_true, hX]
      cases hfn : n.fin with
      | false => simp [hfin hfn]
      | true =>
        by_cases h0 : aO n = 0
        · simp [h0, (aO_zero h0).1]
        · have he := anyP_first w start n
          rw [hfn, if_pos rfl] at he
          rw [if_neg (by simp [h0]), anyAddr_sizes, he]
          exact seg_unpackChecked (L.fout hfn hfo).1 (L.fout hfn hfo).2 (Nat.pos_of_ne_zero h0) hO)
  simp only [hd, hm, anyS_fin, Bool.decide_eq_true, hX] at hmain
  rw [hmain, anyAddr_sizes, anyP_first]
  rfl

/-- a version-`v` reader decodes a `StateAnyTrans` node written by a version-`w` writer, provided
the two agree on whether the node carries an index -/
theorem any_decodes (v w : Nat) (l : List UInt8) (start : Nat) (n : BNode)
    (hvw : indexSize v n.trans.length = indexSize w n.trans.length)
    (hsmall : start < 2 ^ 64) (h256 : n.trans.length ≤ 256) (hs : SortedInputs n)
    (htgt : ∀ t ∈ n.trans, t.addr = 0 ∨ t.addr < start)
    (hfo : n.fout < 2 ^ 64) (houts : ∀ t ∈ n.trans, t.out < 2 ^ 64)
    (hfin : n.fin = false → n.fout = 0)
    (hseg : Seg l start (Spec.compileAnyV w start n)) :
    ∃ rn, nodeNew v (Src.ofList l) (start + (Spec.compileAnyV w start n).length - 1) = some rn ∧
      Decodes (Src.ofList l) rn n start (start + (Spec.compileAnyV w start n).length - 1) := by
  have L := any_lay hseg
  have hX := hvw.trans (aIdx_length w n).symm
  rw [compileAnyV_addr w start n]
  refine ⟨_, any_nodeNew L hX h256 hfo hfin, rfl, rfl, rfl, rfl, rfl, ?_, ?_⟩
  · intro i hi
    have ha := any_transAddr L hX hsmall htgt i hi
    exact ⟨transition_of (any_input L hX i hi) (any_output L hX houts i hi) ha, ha⟩
  · intro b
    by_cases hK : v ≥ 2 ∧ n.trans.length > Gen.TRANS_INDEX_THRESHOLD
    · exact any_find_index L hX hK hs h256 b
    · exact any_find_scan L hX hK hs b

theorem compileAnyV_ge2 {w : Nat} (hw : 2 ≤ w) (start : Nat) (n : BNode) :
    Spec.compileAnyV w start n = compileAny start n := by
  have : (w ≥ 2 ∧ n.trans.length > Gen.TRANS_INDEX_THRESHOLD) ↔
      n.trans.length > Gen.TRANS_INDEX_THRESHOLD := ⟨fun h => h.2, fun h => ⟨hw, h⟩⟩
  simp only [Spec.compileAnyV, compileAny, this]

end Fst
