import FstVerif.Proofs.Bytes
import FstVerif.Proofs.Den
import FstVerif.Model.Build
import FstVerif.Spec.Format
/-
`packSize`; the generated common-input tables, each evaluated once (`commonTables_inverse`,
`pinned_common_inv`); the transition index (`buildIndex`) and `transIdx`.
-/
namespace Fst

/- the 8-way chain is walked once, by hand: `split` on the nested `ite` is far dearer to check -/
theorem packSize_spec (n : Nat) :
    1 ≤ packSize n ∧ packSize n ≤ 8 ∧ (n < 2 ^ 64 → n < 256 ^ packSize n) := by
  unfold packSize
  by_cases h1 : n < 2 ^ 8
  · rw [if_pos h1]; omega
  rw [if_neg h1]
  by_cases h2 : n < 2 ^ 16
  · rw [if_pos h2]; omega
  rw [if_neg h2]
  by_cases h3 : n < 2 ^ 24
  · rw [if_pos h3]; omega
  rw [if_neg h3]
  by_cases h4 : n < 2 ^ 32
  · rw [if_pos h4]; omega
  rw [if_neg h4]
  by_cases h5 : n < 2 ^ 40
  · rw [if_pos h5]; omega
  rw [if_neg h5]
  by_cases h6 : n < 2 ^ 48
  · rw [if_pos h6]; omega
  rw [if_neg h6]
  by_cases h7 : n < 2 ^ 56
  · rw [if_pos h7]; omega
  rw [if_neg h7]; omega

theorem packSize_pos (n : Nat) : 1 ≤ packSize n := (packSize_spec n).1

theorem packSize_le (n : Nat) : packSize n ≤ 8 := (packSize_spec n).2.1

theorem lt_pow_packSize (n : Nat) (h : n < 2 ^ 64) : n < 256 ^ packSize n := (packSize_spec n).2.2 h

theorem pow256_mono {a b : Nat} (h : a ≤ b) : 256 ^ a ≤ 256 ^ b :=
  Nat.pow_le_pow_right (by decide) h

theorem packSize_zero : packSize 0 = 1 := by decide

theorem seg_unpackChecked {l : List UInt8} {off k n : Nat} (h : Seg l off (packIn n k)) (hn : n < 256 ^ k)
    (h1 : 1 ≤ k) (h8 : k ≤ 8) : (Src.ofList l).unpackChecked off k = some n := by
  simp only [Src.unpackChecked, h1, h8, and_self, if_true, seg_unpackAt h hn]

theorem commonInputsA_getD (i : Nat) : commonInputsA.getD i 0 = Gen.COMMON_INPUTS.getD i 0 := by
  simp only [commonInputsA, Array.getD_eq_getD_getElem?, List.getElem?_toArray,
    List.getD_eq_getElem?_getD]

theorem commonInputsInvA_getD (i : Nat) : commonInputsInvA.getD i 0 = Gen.COMMON_INPUTS_INV.getD i 0 := by
  simp only [commonInputsInvA, Array.getD_eq_getD_getElem?, List.getElem?_toArray,
    List.getD_eq_getElem?_getD]

theorem all_range_getD {α : Type} (l : List α) (d : α) (f : α → Nat → Bool) :
    (List.range l.length).all (fun i => f (l.getD i d) i) = l.zipIdx.all fun p => f p.1 p.2 := by
  rw [Bool.eq_iff_iff, List.all_eq_true, List.all_eq_true]
  constructor
  · intro h p hp
    obtain ⟨hi, hp1⟩ := List.getElem?_eq_some_iff.mp (List.mem_zipIdx_iff_getElem?.mp hp)
    have := h p.2 (List.mem_range.mpr hi)
    rwa [List.getD_eq_getElem?_getD, List.getElem?_eq_getElem hi, Option.getD_some, hp1] at this
  · intro h i hi
    have hi := List.mem_range.mp hi
    have := h (l[i], i) (List.mem_zipIdx_iff_getElem?.mpr (List.getElem?_eq_getElem hi))
    rwa [List.getD_eq_getElem?_getD, List.getElem?_eq_getElem hi, Option.getD_some]

theorem commonInputs_length : Gen.COMMON_INPUTS.length = 256 := by decide +kernel

/-- The entries of a table of bytes as the base-256 digits of one number. The kernel divides big
numbers in one step, whereas indexing a list costs a step per position: looking the 256 entries of
the inverse table up this way is much cheaper to evaluate. -/
def digits256 (l : List Nat) : Nat := l.foldr (fun x acc => x + 256 * acc) 0

theorem digits256_get (l : List Nat) (h : ∀ x ∈ l, x < 256) (j : Nat) :
    digits256 l / 256 ^ j % 256 = l.getD j 0 := by
  induction l generalizing j with
  | nil => simp [digits256]
  | cons x xs ih =>
    obtain ⟨hx, hxs⟩ := List.forall_mem_cons.mp h
    cases j with
    | zero =>
      simp only [digits256, List.foldr_cons, Nat.pow_zero, Nat.div_one, List.getD_cons_zero,
        Nat.add_mul_mod_self_left, Nat.mod_eq_of_lt hx]
    | succ j =>
      rw [List.getD_cons_succ, ← ih hxs j, Nat.pow_succ, Nat.mul_comm, ← Nat.div_div_eq_div_mul]
      simp only [digits256, List.foldr_cons]
      rw [Nat.add_mul_div_left x _ (by decide), Nat.div_eq_of_lt hx, Nat.zero_add]

/-- The finite fact about the generated tables: the writer's byte → index table is inverted by the
reader's index → byte table. Evaluated once, walking the forward table. -/
theorem commonTables_inverse :
    (Gen.COMMON_INPUTS.zipIdx.all fun p =>
      let v := (p.1 + 1) % 256
      v == 0 || Gen.COMMON_INPUTS_INV.getD (v - 1) 0 == p.2) = true := by
  have h : (Gen.COMMON_INPUTS.zipIdx.all fun p =>
      let v := (p.1 + 1) % 256
      v == 0 || digits256 Gen.COMMON_INPUTS_INV / 256 ^ (v - 1) % 256 == p.2) = true := by
    decide +kernel
  have hb : (Gen.COMMON_INPUTS_INV.all fun x => decide (x < 256)) = true := by decide +kernel
  simp only [digits256_get _ fun x hx => of_decide_eq_true (List.all_eq_true.mp hb x hx)] at h
  exact h

/-- the reader's table compiled into the crate is the one pinned in the format description -/
theorem pinned_common_inv : Gen.COMMON_INPUTS_INV = Spec.commonInv := by decide +kernel

theorem commonIdx_lt (b : UInt8) : commonIdx b 63 < 64 := by
  simp only [commonIdx]; split <;> omega

theorem commonInput_commonIdx (b : UInt8) (h : commonIdx b 63 ≠ 0) :
    commonInput (commonIdx b 63) = some b := by
  have hb : b.toNat < Gen.COMMON_INPUTS.length := commonInputs_length ▸ UInt8.toNat_lt b
  have ht := (List.all_eq_true.mp commonTables_inverse) (Gen.COMMON_INPUTS[b.toNat], b.toNat)
    (List.mem_zipIdx_iff_getElem?.mpr (List.getElem?_eq_getElem hb))
  have hg : Gen.COMMON_INPUTS.getD b.toNat 0 = Gen.COMMON_INPUTS[b.toNat] := by
    rw [List.getD_eq_getElem?_getD, List.getElem?_eq_getElem hb]; rfl
  simp only [commonIdx, commonInputsA_getD, hg] at h ⊢
  simp only [commonInput, commonInputsInvA_getD]
  generalize (Gen.COMMON_INPUTS[b.toNat] + 1) % 256 = val at *
  split at h
  · exact absurd rfl h
  · rename_i hle
    simp only [Bool.or_eq_true, beq_iff_eq] at ht
    rcases ht with ht | ht
    · exact absurd ht h
    · rw [if_neg hle, if_neg h, ht, UInt8.ofNat_toNat]

theorem commonInput_zero : commonInput 0 = none := rfl

theorem buildIndex_length (ts : List Tr) : (buildIndex ts).length = 256 := by
  simp [buildIndex]

theorem sorted_inj {n : BNode} (hs : SortedInputs n) {i j : Nat} (hi : i < n.trans.length)
    (hj : j < n.trans.length) (h : n.trans[i].inp = n.trans[j].inp) : i = j := by
  have hp := List.pairwise_iff_getElem.mp hs
  rcases Nat.lt_trichotomy i j with hlt | heq | hgt
  · have := hp i j hi hj hlt; rw [h] at this; exact absurd this (UInt8.lt_irrefl _)
  · exact heq
  · have := hp j i hj hi hgt; rw [h] at this; exact absurd this (UInt8.lt_irrefl _)

theorem transIdx_some {n : BNode} (hs : SortedInputs n) {i : Nat} (hi : i < n.trans.length) :
    transIdx n n.trans[i].inp = some i := by
  rw [transIdx, List.findIdx?_eq_some_iff_getElem]
  -- `==` on `UInt8` is `decide (_ = _)`
  refine ⟨hi, decide_eq_true rfl, ?_⟩
  intro j hji hc
  have := sorted_inj hs (Nat.lt_trans hji hi) hi (of_decide_eq_true hc)
  omega

theorem transIdx_some_iff {n : BNode} (hs : SortedInputs n) {b : UInt8} {i : Nat} :
    transIdx n b = some i ↔ ∃ h : i < n.trans.length, n.trans[i].inp = b := by
  constructor
  · intro h
    rw [transIdx, List.findIdx?_eq_some_iff_getElem] at h
    obtain ⟨hi, hb, _⟩ := h
    exact ⟨hi, by simpa using hb⟩
  · rintro ⟨hi, rfl⟩; exact transIdx_some hs hi

theorem transIdx_none_iff {n : BNode} {b : UInt8} :
    transIdx n b = none ↔ ∀ t ∈ n.trans, t.inp ≠ b := by
  simp [transIdx, List.findIdx?_eq_none_iff]

theorem transIdx_lt {n : BNode} {b : UInt8} {i : Nat} (h : transIdx n b = some i) : i < n.trans.length := by
  rw [transIdx, List.findIdx?_eq_some_iff_getElem] at h
  exact h.1

theorem buildIndex_get (n : BNode) (hs : SortedInputs n) (b : UInt8) :
    (buildIndex n.trans)[b.toNat]? =
      some (match transIdx n b with | some i => UInt8.ofNat i | none => 255) := by
  have hb : b.toNat < 256 := UInt8.toNat_lt b
  simp only [buildIndex, List.getElem?_map, List.getElem?_range hb, Option.map_some]
  congr 1
  cases hf : (n.trans.zipIdx.filter fun p => decide (p.1.inp.toNat = b.toNat)).getLast? with
  | none =>
    rw [List.getLast?_eq_none_iff] at hf
    cases ht : transIdx n b with
    | none => rfl
    | some i =>
      exfalso
      obtain ⟨hi, hb⟩ := (transIdx_some_iff hs).mp ht
      have : (n.trans[i], i) ∈ n.trans.zipIdx.filter fun p => decide (p.1.inp.toNat = b.toNat) := by
        rw [List.mem_filter, List.mem_zipIdx_iff_getElem?]
        simp [hi, hb]
      rw [hf] at this; simp at this
  | some p =>
    have hm := List.mem_of_getLast? hf
    rw [List.mem_filter, List.mem_zipIdx_iff_getElem?] at hm
    obtain ⟨h1, h2⟩ := hm
    have h2 : p.1.inp = b := UInt8.toNat_inj.mp (by simpa using h2)
    obtain ⟨hi, hp⟩ := List.getElem?_eq_some_iff.mp h1
    have : transIdx n b = some p.2 := (transIdx_some_iff hs).mpr ⟨hi, by rw [hp]; exact h2⟩
    rw [this]

theorem buildIndex_get_some (n : BNode) (hs : SortedInputs n) (i : Nat) (hi : i < n.trans.length) :
    (buildIndex n.trans)[n.trans[i].inp.toNat]? = some (UInt8.ofNat i) := by
  rw [buildIndex_get n hs, transIdx_some hs hi]

theorem buildIndex_get_none (n : BNode) (hs : SortedInputs n) (b : UInt8)
    (h : ∀ t ∈ n.trans, t.inp ≠ b) : (buildIndex n.trans)[b.toNat]? = some 255 := by
  rw [buildIndex_get n hs, transIdx_none_iff.mpr h]

end Fst
