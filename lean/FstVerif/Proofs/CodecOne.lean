import FstVerif.Proofs.CodecBytes
/-
`WFNode`, `Decodes`; what `compileOTN` / `compileOT` wrote, at offsets from the node's first byte
(`OneTail`, `OtLay`), and the reader's round trip over that layout.
-/
namespace Fst

/-- well-formedness of a node about to be written at byte offset `start`; `lastAddr` is the
builder's `last_addr` (address of the node written just before, or a sentinel). Two fields are
there because the round trip is false without them: `pos` (a one-byte node at offset 0 would get
address 0 = `EMPTY_ADDRESS`) and `next` (a transition to `lastAddr` with output 0 is written as
`StateOneTransNext`, which stores no address and is read back as `start - 1`). -/
structure WFNode (n : BNode) (lastAddr start : Nat) : Prop where
  ntrans : n.trans.length ≤ 256
  sorted : SortedInputs n
  targets : ∀ t ∈ n.trans, t.addr = 0 ∨ t.addr < start
  outs : n.fout < 2^64 ∧ ∀ t ∈ n.trans, t.out < 2^64
  small : start < 2^64
  pos : 0 < start
  notEmpty : isEmptyFinal n = false
  next : lastAddr = start - 1 ∨ ∀ t ∈ n.trans, t.addr ≠ lastAddr
  finOut : n.fin = false → n.fout = 0

/-- `rn`, read from `d`, decodes exactly `n` and occupies the bytes `start ..= addr` -/
structure Decodes (d : Src) (rn : RNode) (n : BNode) (start addr : Nat) : Prop where
  start_eq : rn.start = addr
  end_eq : rn.end_ = start
  fin : rn.fin = n.fin
  fout : rn.fout = n.fout
  ntrans : rn.ntrans = n.trans.length
  trans : ∀ i (h : i < n.trans.length),
    rn.transition d i = some n.trans[i] ∧ rn.transAddr d i = some n.trans[i].addr
  find : ∀ b, rn.findInput d b = some (transIdx n b)

theorem get_ofList (l : List UInt8) (i : Nat) : (Src.ofList l).get i = l[i]? := rfl

theorem toNat_ofNat_lt {n : Nat} (h : n < 256) : (UInt8.ofNat n).toNat = n :=
  UInt8.toNat_ofNat_of_lt' h

theorem transIdx_single (f : Bool) (o : Nat) (t : Tr) (b : UInt8) :
    transIdx ⟨f, o, [t]⟩ b = if t.inp = b then some 0 else none := by
  simp [transIdx, List.findIdx?_cons]

def mkOTN (v s addr e : Nat) : RNode :=
  { version := v, kind := .otn, sb := s, start := addr, end_ := e, fin := false,
    ntrans := 1, tsize := 0, osize := 0, fout := 0 }

def mkOT (v s addr e tsize osize : Nat) : RNode :=
  { version := v, kind := .ot, sb := s, start := addr, end_ := e, fin := false,
    ntrans := 1, tsize := tsize, osize := osize, fout := 0 }

def mkAny (v s addr e : Nat) (fin : Bool) (ntrans tsize osize fout : Nat) : RNode :=
  { version := v, kind := .any, sb := s, start := addr, end_ := e, fin := fin,
    ntrans := ntrans, tsize := tsize, osize := osize, fout := fout }

/-- `RNode.ilen` as a function of the state byte `s` (`ilen_eq`) -/
def rIlen (s : Nat) : Nat := if (commonInput (s % 64)).isNone then 1 else 0

theorem nodeNew_otn {v : Nat} {d : Src} {addr s : Nat} {vb : UInt8} (h0 : addr ≠ 0)
    (hg : d.get addr = some vb) (hs : vb.toNat = s) (htop : s / 64 = 3) :
    nodeNew v d addr = some (mkOTN v s addr (addr - rIlen s)) := by
  subst hs
  simp only [nodeNew, EMPTY_ADDRESS, h0, if_false, hg, htop, if_true, mkOTN, rIlen]

theorem nodeNew_ot {v : Nat} {d : Src} {addr s sz : Nat} {vb szb : UInt8} (h0 : addr ≠ 0)
    (hg : d.get addr = some vb) (hs : vb.toNat = s) (htop : s / 64 = 2)
    (hgz : d.get (addr - rIlen s - 1) = some szb) (hsz : szb.toNat = sz) :
    nodeNew v d addr = some (mkOT v s addr (addr - rIlen s - 1 - sz / 16 - sz % 16) (sz / 16) (sz % 16)) := by
  subst hs hsz
  simp only [rIlen] at hgz
  simp only [nodeNew, EMPTY_ADDRESS, h0, if_false, hg, htop, if_true, hgz,
    if_neg (show ¬ (2 : Nat) = 3 by decide), mkOT, rIlen]

theorem transition_of {d : Src} {rn : RNode} {i : Nat} {t : Tr} (h1 : rn.input d i = some t.inp)
    (h2 : rn.output d i = some t.out) (h3 : rn.transAddr d i = some t.addr) :
    rn.transition d i = some t := by
  simp only [RNode.transition, h1, h2, h3]

theorem delta_back {start a : Nat} (h : a = 0 ∨ a < start) :
    (if deltaVal start a = EMPTY_ADDRESS then EMPTY_ADDRESS else start - deltaVal start a) = a := by
  simp only [deltaVal, EMPTY_ADDRESS]
  by_cases h0 : a = 0
  · simp [h0]
  · have hlt := h.resolve_left h0
    simp only [h0, if_false, Nat.sub_ne_zero_of_lt hlt, Nat.sub_sub_self (Nat.le_of_lt hlt)]

theorem deltaVal_lt {start a : Nat} (hs : start < 2 ^ 64) : deltaVal start a < 2 ^ 64 := by
  simp only [deltaVal, EMPTY_ADDRESS]
  by_cases h0 : a = 0
  · simp [h0]
  · simp only [h0, if_false]; omega

theorem sizes_byte {tsize osize : Nat} (ht : tsize ≤ 8) (ho : osize ≤ 8) :
    (UInt8.ofNat (tsize * 16 + osize)).toNat = tsize * 16 + osize ∧
    (tsize * 16 + osize) / 16 = tsize ∧ (tsize * 16 + osize) % 16 = osize := by
  refine ⟨toNat_ofNat_lt (by omega), by omega, by omega⟩

/-- `il` explicit input bytes (0 or 1) followed by the state byte `s` at `addr`, for input `b`;
`s` = tag + common-input index, tag 192 = `0b11_000000` (`StateOneTransNext`) or 128 =
`0b10_000000` (`StateOneTrans`) -/
structure OneTail (l : List UInt8) (addr il s : Nat) (b : UInt8) : Prop where
  get : l[addr]? = some (UInt8.ofNat s)
  lt : s < 256
  ilen : rIlen s = il
  inp : commonInput (s % 64) = some b ∨
    (commonInput (s % 64) = none ∧ il = 1 ∧ l[addr - 1]? = some b)

theorem one_tail {l : List UInt8} {off base : Nat} {b : UInt8} (hb : base % 64 = 0) (hlt : base < 256)
    (h : Seg l off ((if commonIdx b 63 = 0 then [b] else []) ++ [UInt8.ofNat (base + commonIdx b 63)])) :
    ∃ il, ((if commonIdx b 63 = 0 then [b] else []) : List UInt8).length = il ∧
      OneTail l (off + il) il (base + commonIdx b 63) b := by
  have hci := commonIdx_lt b
  have ⟨hmod, hsum⟩ : (base + commonIdx b 63) % 64 = commonIdx b 63 ∧ base + commonIdx b 63 < 256 := by
    omega
  obtain ⟨h1, h2⟩ := seg_append h
  have h2 := seg_single h2
  by_cases hc : commonIdx b 63 = 0
  · have hn : commonInput (commonIdx b 63) = none := by rw [hc]; rfl
    rw [if_pos hc] at h1 h2 ⊢
    exact ⟨1, rfl, h2, hsum, by rw [rIlen, hmod, hn]; rfl,
      Or.inr ⟨by rw [hmod, hn], rfl, seg_single h1⟩⟩
  · have hn := commonInput_commonIdx b hc
    rw [if_neg hc] at h2 ⊢
    exact ⟨0, rfl, h2, hsum, by rw [rIlen, hmod, hn]; rfl, Or.inl (by rw [hmod, hn])⟩

theorem OneTail.input {l : List UInt8} {addr il s : Nat} {b : UInt8} (T : OneTail l addr il s b)
    {rn : RNode} (hk : rn.kind = .otn ∨ rn.kind = .ot) (hsb : rn.sb = s) (hst : rn.start = addr) :
    rn.input (Src.ofList l) 0 = some b := by
  subst hsb hst
  rcases hk with hk | hk <;> rcases T.inp with h | ⟨h, _, h'⟩ <;>
    simp [RNode.input, get_ofList, *]

theorem otn_decodes (v : Nat) (l : List UInt8) (start : Nat) (t : Tr) (hpos : 0 < start)
    (hout : t.out = 0) (haddr : t.addr = start - 1)
    (hseg : Seg l start (compileOTN t.inp)) :
    ∃ rn, nodeNew v (Src.ofList l) (start + (compileOTN t.inp).length - 1) = some rn ∧
      Decodes (Src.ofList l) rn ⟨false, 0, [t]⟩ start (start + (compileOTN t.inp).length - 1) := by
  simp only [compileOTN] at hseg ⊢
  obtain ⟨il, hil, T⟩ := one_tail (base := 192) rfl (by decide) hseg
  rw [List.length_append, hil, List.length_singleton, ← Nat.add_assoc, Nat.add_sub_cancel]
  have hci := commonIdx_lt t.inp
  have htop : (192 + commonIdx t.inp 63) / 64 = 3 :=
    Nat.div_eq_of_lt_le (Nat.le_add_right ..) (Nat.add_lt_add_left hci 192)
  refine ⟨_, nodeNew_otn (Nat.ne_of_gt (Nat.add_pos_left hpos il)) T.get (toNat_ofNat_lt T.lt) htop, ?_⟩
  rw [T.ilen, Nat.add_sub_cancel]
  have hinp : (mkOTN v (192 + commonIdx t.inp 63) (start + il) start).input (Src.ofList l) 0
      = some t.inp := T.input (Or.inl rfl) rfl rfl
  refine ⟨rfl, rfl, rfl, rfl, rfl, ?_, ?_⟩
  · intro i hi
    have : i = 0 := by simpa using hi
    subst this
    have ha : (mkOTN v (192 + commonIdx t.inp 63) (start + il) start).transAddr (Src.ofList l) 0
        = some t.addr := by
      simp [RNode.transAddr, mkOTN, haddr]
    refine ⟨transition_of hinp ?_ ha, ha⟩
    simp [RNode.output, mkOTN, hout]
  · intro b
    simp only [RNode.findInput, mkOTN] at hinp ⊢
    simp only [hinp, transIdx_single]

theorem ilen_eq (rn : RNode) : rn.ilen = rIlen rn.sb := rfl

/-- the fields of a `StateOneTrans` node written at `start`: output (`osize` bytes), delta
(`tsize` bytes), sizes byte, then the tail -/
structure OtLay (l : List UInt8) (start osize tsize il : Nat) (t : Tr) : Prop where
  out : Seg l start (packIn t.out osize)
  delta : Seg l (start + osize) (packIn (deltaVal start t.addr) tsize)
  sizes : l[start + osize + tsize]? = some (UInt8.ofNat (tsize * 16 + osize))
  tail : OneTail l (start + osize + tsize + 1 + il) il (128 + commonIdx t.inp 63) t.inp
  ht1 : 1 ≤ tsize
  ht8 : tsize ≤ 8
  hdv : deltaVal start t.addr < 256 ^ tsize
  ho8 : osize ≤ 8
  ho0 : osize = 0 → t.out = 0
  hov : t.out < 256 ^ osize

theorem ot_lay {l : List UInt8} {start : Nat} {t : Tr} (hsmall : start < 2 ^ 64) (hout : t.out < 2 ^ 64)
    (hseg : Seg l start (compileOT start t)) :
    ∃ osize tsize il, start + (compileOT start t).length - 1 = start + osize + tsize + 1 + il ∧
      OtLay l start osize tsize il t := by
  simp only [compileOT] at hseg ⊢
  generalize hO : (if t.out = 0 then 0 else packSize t.out) = osize at hseg ⊢
  generalize hT : packSize (deltaVal start t.addr) = tsize at hseg ⊢
  obtain ⟨h1, h4⟩ := seg_append (List.append_assoc _ _ _ ▸ hseg)
  obtain ⟨h1, h3⟩ := seg_append h1
  obtain ⟨h1, h2⟩ := seg_append h1
  simp only [List.length_append, packIn_length, List.length_cons, List.length_nil, Nat.zero_add,
    ← Nat.add_assoc] at h2 h3 h4 ⊢
  obtain ⟨il, hil, T⟩ := one_tail (base := 128) rfl (by decide) h4
  refine ⟨osize, tsize, il, by rw [hil, Nat.add_sub_cancel], h1, h2, seg_single h3, T,
    hT ▸ packSize_pos _, hT ▸ packSize_le _, hT ▸ lt_pow_packSize _ (deltaVal_lt hsmall), ?_, ?_, ?_⟩
  · rw [← hO]; split
    · omega
    · exact packSize_le _
  · rw [← hO]; split
    · intro _; assumption
    · have := packSize_pos t.out; omega
  · rw [← hO]; split
    · rename_i h; rw [h]; decide
    · exact lt_pow_packSize _ hout

theorem OtLay.decodes {l : List UInt8} {start osize tsize il : Nat} {t : Tr}
    (L : OtLay l start osize tsize il t) (v : Nat) (htgt : t.addr = 0 ∨ t.addr < start) :
    ∃ rn, nodeNew v (Src.ofList l) (start + osize + tsize + 1 + il) = some rn ∧
      Decodes (Src.ofList l) rn ⟨false, 0, [t]⟩ start (start + osize + tsize + 1 + il) := by
  have hci := commonIdx_lt t.inp
  have hne : start + osize + tsize + 1 + il ≠ 0 := Nat.ne_of_gt (Nat.add_pos_left (Nat.succ_pos _) il)
  have htop : (128 + commonIdx t.inp 63) / 64 = 2 :=
    Nat.div_eq_of_lt_le (Nat.le_add_right ..) (Nat.add_lt_add_left hci 128)
  obtain ⟨hso, hst, hgz, T, ht1, ht8, hdv, ho8, ho0, hov⟩ := L
  obtain ⟨hsz, hd, hm⟩ := sizes_byte ht8 ho8
  have hlen := T.ilen
  have hnn := nodeNew_ot (v := v) (d := Src.ofList l) hne T.get (toNat_ofNat_lt T.lt) htop
    (by rw [hlen, Nat.add_sub_cancel, Nat.add_sub_cancel]; exact hgz) hsz
  simp only [hd, hm, hlen, Nat.add_sub_cancel] at hnn
  refine ⟨_, hnn, ?_⟩
  have hinp : (mkOT v (128 + commonIdx t.inp 63) (start + osize + tsize + 1 + il) start tsize osize).input
      (Src.ofList l) 0 = some t.inp := T.input (Or.inr rfl) rfl rfl
  refine ⟨rfl, rfl, rfl, rfl, rfl, ?_, ?_⟩
  · intro i hi
    have : i = 0 := by simpa using hi
    subst this
    have ha : (mkOT v (128 + commonIdx t.inp 63) (start + osize + tsize + 1 + il) start tsize osize).transAddr
        (Src.ofList l) 0 = some t.addr := by
      simp only [RNode.transAddr, ilen_eq, mkOT, hlen, unpackDelta, Nat.add_sub_cancel]
      rw [seg_unpackChecked hst hdv ht1 ht8]
      simp only [ne_eq, not_true_eq_false, if_false, Option.map_some, delta_back htgt]
    refine ⟨transition_of hinp ?_ ha, ha⟩
    simp only [RNode.output, ilen_eq, mkOT, hlen, Nat.add_sub_cancel]
    by_cases h0 : osize = 0
    · simp [h0, ho0 h0]
    · rw [seg_unpackChecked hso hov (Nat.pos_of_ne_zero h0) ho8]
      simp [h0]
  · intro b
    simp only [RNode.findInput, mkOT] at hinp ⊢
    simp only [hinp, transIdx_single]

end Fst
