import FstVerif.Model.Crc
import FstVerif.Spec.Crc
/-
C08 — the slice-by-16 table-driven CRC of the model is the bitwise CRC-32C.
The bit step is GF(2)-linear and injective; a byte enters as `T[x & 0xff] ^^^ (x >>> 8)`, a window of
up to four bytes as one little-endian word (`leVal`), which is both how a 16-byte block starts and
why changes confined to four consecutive bytes are detected.
-/
namespace Fst
namespace CrcP
open Spec

/-! ### the bit step is GF(2)-linear -/

theorem and_one_toNat (c : UInt32) : (c &&& 1).toNat = c.toNat % 2 := by
  simp [UInt32.toNat_and, Nat.and_one_is_mod]

theorem and_one_cases (c : UInt32) : c &&& 1 = 0 ∨ c &&& 1 = 1 := by
  rcases Nat.mod_two_eq_zero_or_one c.toNat with h0 | h1
  · left; apply UInt32.toNat_inj.mp; rw [and_one_toNat, h0]; rfl
  · right; apply UInt32.toNat_inj.mp; rw [and_one_toNat, h1]; rfl

theorem bitStep_eq (c : UInt32) :
    bitStep c = (c >>> 1) ^^^ (if c &&& 1 = 1 then crcPoly else 0) := by
  unfold bitStep; split <;> simp

theorem xor_and_one (a b : UInt32) : (a ^^^ b) &&& 1 = (a &&& 1) ^^^ (b &&& 1) :=
  UInt32.toNat_inj.mp (by
    rw [UInt32.toNat_and, UInt32.toNat_xor, UInt32.toNat_xor, UInt32.toNat_and, UInt32.toNat_and]
    exact Nat.and_xor_distrib_right)

/-- the feedback term is additive in the low bit -/
theorem poly_xor {s t : UInt32} (hs : s = 0 ∨ s = 1) (ht : t = 0 ∨ t = 1) :
    (if s ^^^ t = 1 then crcPoly else 0)
      = (if s = 1 then crcPoly else 0) ^^^ (if t = 1 then crcPoly else 0) := by
  rcases hs with rfl | rfl <;> rcases ht with rfl | rfl <;> rfl

theorem bitStep_xor (a b : UInt32) : bitStep (a ^^^ b) = bitStep a ^^^ bitStep b := by
  rw [bitStep_eq, bitStep_eq, bitStep_eq, xor_and_one, UInt32.shiftRight_xor,
    poly_xor (and_one_cases a) (and_one_cases b)]
  ac_rfl

theorem bitSteps_xor (n : Nat) (a b : UInt32) :
    bitSteps n (a ^^^ b) = bitSteps n a ^^^ bitSteps n b := by
  induction n generalizing a b with
  | zero => rfl
  | succ n ih => simp only [bitSteps, bitStep_xor, ih]

theorem bitStep_zero : bitStep 0 = 0 := by decide

theorem bitSteps_zero (n : Nat) : bitSteps n 0 = 0 := by simpa using bitSteps_xor n 0 0

theorem bitSteps_add (m n : Nat) (c : UInt32) : bitSteps (m + n) c = bitSteps n (bitSteps m c) := by
  induction m generalizing c with
  | zero => simp [bitSteps]
  | succ m ih => rw [Nat.succ_add]; simp only [bitSteps, ih]

/-! ### feeding a byte: `bitSteps 8 x = T[x & 0xff] ^^^ (x >>> 8)` -/

/-- `bitStep` on the value of the register. The generated tables are checked with it: the kernel is
slow on `UInt32` operations and slower on look-ups in a 256-element list, fast on `Nat` arithmetic. -/
def stepN (x : Nat) : Nat := if x % 2 = 1 then (x / 2) ^^^ 0x82F63B78 else x / 2

def stepsN : Nat → Nat → Nat
  | 0, x => x
  | n + 1, x => stepsN n (stepN x)

theorem bitStep_toNat (c : UInt32) : (bitStep c).toNat = stepN c.toNat := by
  have hc : c &&& 1 = 1 ↔ c.toNat % 2 = 1 := by rw [← and_one_toNat, ← UInt32.toNat_inj]; rfl
  rw [bitStep, stepN]
  simp only [hc]
  split
  · rw [UInt32.toNat_xor, UInt32.toNat_shiftRight]; rfl
  · rw [UInt32.toNat_shiftRight]; rfl

theorem bitSteps_toNat (n : Nat) (c : UInt32) : (bitSteps n c).toNat = stepsN n c.toNat := by
  induction n generalizing c with
  | zero => rfl
  | succ n ih => rw [bitSteps, ih, bitStep_toNat, stepsN]

theorem bitStep_even (x : UInt32) (h : x.toNat % 2 = 0) : (bitStep x).toNat = x.toNat / 2 := by
  rw [bitStep_toNat, stepN, if_neg (by omega)]

theorem bitSteps_low_zero (k : Nat) (x : UInt32) (h : x.toNat % 2 ^ k = 0) :
    (bitSteps k x).toNat = x.toNat / 2 ^ k := by
  induction k generalizing x with
  | zero => simp [bitSteps]
  | succ k ih =>
    rw [Nat.pow_succ'] at h ⊢
    have h2 := bitStep_even x (by rw [← Nat.mod_mul_right_mod _ 2 (2 ^ k), h])
    rw [bitSteps, ih _ (by rw [h2, ← Nat.mod_mul_right_div_self, h]), h2, Nat.div_div_eq_div_mul]

theorem bitSteps8_hi (x : UInt32) (h : x.toNat % 256 = 0) : bitSteps 8 x = x >>> 8 := by
  apply UInt32.toNat_inj.mp
  rw [bitSteps_low_zero 8 x h]
  simp [UInt32.toNat_shiftRight, Nat.shiftRight_eq_div_pow]

theorem split_lo_hi (x : UInt32) : x = x.toUInt8.toUInt32 ^^^ ((x >>> 8) <<< 8) := by
  apply UInt32.eq_of_toBitVec_eq
  -- the shift amounts as plain numerals from the start: `simp` is slow to identify `8#32 % 32#32` with them
  show x.toBitVec = (x.toBitVec.setWidth 8).setWidth 32 ^^^ x.toBitVec >>> 8 <<< 8
  ext i hi
  by_cases h : i < 8
  · simp [h, hi]
  · simp [h, show 8 + (i - 8) = i by omega, BitVec.getLsbD_eq_getElem hi]

theorem shl8_toNat (y : UInt32) : (y <<< 8).toNat % 256 = 0 := by
  simp [UInt32.toNat_shiftLeft, Nat.shiftLeft_eq]

theorem shl_shr_small (v : UInt32) (h : v.toNat < 2 ^ 24) : v <<< 8 >>> 8 = v := by
  apply UInt32.toNat_inj.mp
  simp [UInt32.toNat_shiftRight, UInt32.toNat_shiftLeft, Nat.shiftLeft_eq, Nat.shiftRight_eq_div_pow]
  omega

theorem shr8_small (x : UInt32) : (x >>> 8).toNat < 2 ^ 24 := by
  rw [UInt32.toNat_shiftRight, Nat.shiftRight_eq_div_pow]
  have := x.toNat_lt
  exact Nat.div_lt_of_lt_mul (by simpa using this)

theorem bitSteps8_shl (v : UInt32) (h : v.toNat < 2 ^ 24) : bitSteps 8 (v <<< 8) = v := by
  rw [bitSteps8_hi _ (shl8_toNat v), shl_shr_small v h]

/-- `bitSteps 8` is feeding a zero byte (the "zero-byte step" below): the low byte goes through the
table, the rest shifts -/
theorem bitSteps8_split (x : UInt32) :
    bitSteps 8 x = bitSteps 8 x.toUInt8.toUInt32 ^^^ (x >>> 8) := by
  conv => lhs; rw [split_lo_hi x]
  rw [bitSteps_xor, bitSteps8_shl _ (shr8_small x)]

/-! ### the generated tables are the specified ones -/

theorem makeTable_getD (i : Nat) (h : i < 256) : makeTable.getD i 0 = tableEntry i := by
  simp [makeTable, List.getD_eq_getElem?_getD, List.getElem?_map, List.getElem?_range h]

theorem tableEntry_u8 (i : UInt8) : tableEntry i.toNat = (bitSteps 8 i.toUInt32).toNat := by
  rw [tableEntry, UInt32.ofNat_uInt8ToNat]

/-- the row recurrence of `make_table16` is the zero-byte step -/
theorem nextEntry_toNat (y : UInt32) : nextEntry y.toNat = (bitSteps 8 y).toNat := by
  have h1 : y.toNat &&& 0xff = y.toUInt8.toNat := by
    rw [UInt32.toNat_toUInt8]; exact Nat.and_two_pow_sub_one_eq_mod _ 8
  rw [nextEntry, h1, makeTable_getD _ (UInt8.toNat_lt _), tableEntry_u8, bitSteps8_split y,
    UInt32.toNat_xor, UInt32.toNat_shiftRight, Nat.xor_comm]
  rfl

theorem makeTable_eq : makeTable = (List.range 256).map (stepsN 8) :=
  List.map_congr_left fun i hi => by
    rw [tableEntry, bitSteps_toNat, UInt32.toNat_ofNat',
      Nat.mod_eq_of_lt (Nat.lt_trans (List.mem_range.mp hi) (by decide))]

/-- on a row of register values both recurrences are the zero-byte step -/
theorem map_nextEntry (u : List UInt32) :
    (u.map UInt32.toNat).map nextEntry = (u.map (bitSteps 8)).map UInt32.toNat := by
  simp only [List.map_map, Function.comp_def, nextEntry_toNat]

theorem map_stepsN (u : List UInt32) :
    (u.map UInt32.toNat).map (stepsN 8) = (u.map (bitSteps 8)).map UInt32.toNat := by
  simp only [List.map_map, Function.comp_def, bitSteps_toNat]

/-- `rows` starts with `row`, and each further row is the image under `stepsN 8` of the one before it -/
def isRows : List (List Nat) → List Nat → Bool
  | [], _ => true
  | r :: rs, row => r == row && isRows rs (r.map (stepsN 8))

theorem tableRows_of_isRows (rows : List (List Nat)) (u : List UInt32)
    (h : isRows rows (u.map UInt32.toNat) = true) : rows = tableRows rows.length (u.map UInt32.toNat) := by
  induction rows generalizing u with
  | nil => rfl
  | cons r rs ih =>
    rw [isRows, Bool.and_eq_true, beq_iff_eq] at h
    obtain ⟨rfl, h⟩ := h
    rw [map_stepsN] at h
    rw [List.length_cons, tableRows, map_nextEntry, ← ih _ h]

/-- the first row, as register values -/
def row0 : List UInt32 := (List.range 256).map fun i => bitSteps 8 (UInt32.ofNat i)

theorem makeTable_row0 : makeTable = row0.map UInt32.toNat := by
  rw [row0, List.map_map]; rfl

/-! The two pins are kernel evaluations of the generated tables against `stepsN`: `CRC_TABLE` entry by
entry, `CRC_TABLE16` row by row, each generated row against the image of the generated row before it. -/

theorem table_pinned : Gen.CRC_TABLE = Spec.makeTable := by
  rw [makeTable_eq]
  decide +kernel

theorem table16_pinned : Gen.CRC_TABLE16 = Spec.makeTable16 := by
  have h : isRows Gen.CRC_TABLE16 Gen.CRC_TABLE = true := by decide +kernel
  rw [table_pinned, makeTable_row0] at h
  rw [makeTable16, makeTable_row0]
  exact tableRows_of_isRows _ _ h

/-- row `j` of the table is row 0 after `j` further zero bytes -/
theorem tableRows_toNat (n : Nat) (u : List UInt32) :
    tableRows n (u.map UInt32.toNat)
      = (List.range n).map fun j => u.map fun y => (bitSteps (8 * j) y).toNat := by
  induction n generalizing u with
  | zero => rfl
  | succ n ih =>
    rw [tableRows, map_nextEntry, ih, List.range_succ_eq_map, List.map_cons, List.map_map]
    refine congrArg (List.cons _) (List.map_congr_left fun j _ => ?_)
    rw [List.map_map]
    apply List.map_congr_left
    intro y _
    simp only [Function.comp_apply, Nat.mul_succ, Nat.add_comm (8 * j) 8, bitSteps_add]

/-! ### the model's array accessors -/

theorem tbl_eq (i : UInt8) : tbl i = bitSteps 8 i.toUInt32 := by
  have hi := i.toNat_lt
  simp [tbl, crcTableA, table_pinned, makeTable, List.getElem?_range hi, tableEntry]

theorem tbl16_eq (j : Nat) (i : UInt8) (hj : j < 16) :
    tbl16 j i = bitSteps (8 * (j + 1)) i.toUInt32 := by
  have hi := i.toNat_lt
  rw [tbl16, crcT16A, table16_pinned, makeTable16, makeTable_row0, tableRows_toNat, row0]
  simp [List.getElem?_range hj, List.getElem?_range hi, Nat.mul_succ,
    Nat.add_comm (8 * j) 8, bitSteps_add]

/-! ### one table-driven byte step is the bitwise byte step -/

theorem byte_shr8 (b : UInt8) : b.toUInt32 >>> 8 = 0 := by
  apply UInt32.toNat_inj.mp
  rw [UInt32.toNat_shiftRight, UInt8.toNat_toUInt32, Nat.shiftRight_eq_div_pow]
  exact Nat.div_eq_of_lt b.toNat_lt

theorem crcByte_eq (c : UInt32) (b : UInt8) : crcByte c b = byteStep c b := by
  rw [crcByte, tbl_eq, byteStep, bitSteps8_split (c ^^^ b.toUInt32), UInt32.toUInt8_xor,
    UInt8.toUInt8_toUInt32, UInt32.shiftRight_xor, byte_shr8, UInt32.xor_zero]

/-! ### a window of at most four bytes is absorbed as one word -/

/-- little-endian value of a window of bytes -/
def leVal : List UInt8 → UInt32
  | [] => 0
  | b :: w => b.toUInt32 ^^^ (leVal w <<< 8)

theorem leVal_lt (w : List UInt8) : (leVal w).toNat < 2 ^ (8 * w.length) := by
  induction w with
  | nil => decide
  | cons b w ih =>
    rw [leVal, UInt32.toNat_xor, List.length_cons]
    apply Nat.xor_lt_two_pow
    · rw [UInt8.toNat_toUInt32]
      exact Nat.lt_of_lt_of_le b.toNat_lt (Nat.pow_le_pow_right (by decide) (by omega))
    · rw [UInt32.toNat_shiftLeft, Nat.mul_succ, Nat.pow_add]
      apply Nat.lt_of_le_of_lt (Nat.mod_le _ _)
      rw [Nat.shiftLeft_eq]
      exact Nat.mul_lt_mul_of_pos_right ih (by decide)

theorem leVal_small (w : List UInt8) (h : w.length ≤ 3) : (leVal w).toNat < 2 ^ 24 :=
  Nat.lt_of_lt_of_le (leVal_lt w) (Nat.pow_le_pow_right (by decide) (by omega))

theorem foldl_window (w : List UInt8) (c : UInt32) (h : w.length ≤ 4) :
    w.foldl byteStep c = bitSteps (8 * w.length) (c ^^^ leVal w) := by
  induction w generalizing c with
  | nil => simp [leVal, bitSteps]
  | cons b w ih =>
    have hw : w.length ≤ 3 := Nat.le_of_succ_le_succ h
    rw [List.foldl_cons, ih _ (Nat.le_succ_of_le hw), List.length_cons, Nat.mul_succ, Nat.add_comm (8 * w.length),
      bitSteps_add, leVal, byteStep]
    -- the two arguments of `bitSteps (8 * w.length)` are made equal
    rw [← UInt32.xor_assoc, bitSteps_xor 8 (c ^^^ b.toUInt32), bitSteps8_shl _ (leVal_small w hw)]

/-! ### one 16-byte block is 16 byte steps -/

theorem bitSteps_split (n : Nat) (x : UInt32) :
    bitSteps (8 + n) x = bitSteps (8 + n) x.toUInt8.toUInt32 ^^^ bitSteps n (x >>> 8) := by
  rw [bitSteps_add, bitSteps8_split, bitSteps_xor, ← bitSteps_add]

theorem toNat_shr_shr (x a b : UInt32) :
    (x >>> a >>> b).toNat = x.toNat >>> (a.toNat % 32 + b.toNat % 32) := by
  rw [UInt32.toNat_shiftRight, UInt32.toNat_shiftRight, Nat.shiftRight_add]

theorem shr_shr_zero (x a b : UInt32) (h : a.toNat % 32 + b.toNat % 32 = 32) : x >>> a >>> b = 0 := by
  apply UInt32.toNat_inj.mp
  rw [toNat_shr_shr, h, Nat.shiftRight_eq_div_pow]
  exact Nat.div_eq_of_lt x.toNat_lt

theorem shr_8_8 (x : UInt32) : x >>> 8 >>> 8 = x >>> 16 :=
  UInt32.toNat_inj.mp (by rw [toNat_shr_shr, UInt32.toNat_shiftRight]; rfl)
theorem shr_16_8 (x : UInt32) : x >>> 16 >>> 8 = x >>> 24 :=
  UInt32.toNat_inj.mp (by rw [toNat_shr_shr, UInt32.toNat_shiftRight]; rfl)

/-- 16 zero bytes fed into a state: the contributions of its four bytes -/
theorem bitSteps128_bytes (x : UInt32) :
    bitSteps 128 x = bitSteps 128 x.toUInt8.toUInt32 ^^^ bitSteps 120 (x >>> 8).toUInt8.toUInt32
      ^^^ bitSteps 112 (x >>> 16).toUInt8.toUInt32 ^^^ bitSteps 104 (x >>> 24).toUInt8.toUInt32 := by
  have e1 := bitSteps_split 120 x
  have e2 := bitSteps_split 112 (x >>> 8)
  have e3 := bitSteps_split 104 (x >>> 16)
  have e4 := bitSteps_split 96 (x >>> 24)
  simp only [Nat.reduceAdd, shr_8_8, shr_16_8, shr_shr_zero x 24 8 rfl, bitSteps_zero, UInt32.xor_zero] at e1 e2 e3 e4
  rw [e1, e2, e3, e4]
  simp only [UInt32.xor_assoc]

theorem or_shl8 (b : UInt8) (v : UInt32) : b.toUInt32 ||| (v <<< 8) = b.toUInt32 ^^^ (v <<< 8) := by
  apply UInt32.eq_of_toBitVec_eq
  ext i hi
  by_cases h : i < 8
  · simp [h]
  · simp [h, BitVec.getLsbD_of_ge b.toBitVec i (by omega)]

theorem shl_8_8 (x : UInt32) : x <<< 8 <<< 8 = x <<< 16 :=
  (UInt32.shiftLeft_add (b := 8) (c := 8) (by decide) (by decide) (by decide)).symm
theorem shl_16_8 (x : UInt32) : x <<< 16 <<< 8 = x <<< 24 :=
  (UInt32.shiftLeft_add (b := 16) (c := 8) (by decide) (by decide) (by decide)).symm

/-- `u32::from_le_bytes` of the model is the little-endian value of the four bytes -/
theorem u32OfLe_eq_leVal (b0 b1 b2 b3 : UInt8) : u32OfLe b0 b1 b2 b3 = leVal [b0, b1, b2, b3] := by
  simp only [leVal, UInt32.zero_shiftLeft, UInt32.xor_zero]
  simp only [← or_shl8]
  simp only [u32OfLe, UInt32.shiftLeft_or, shl_8_8, shl_16_8, UInt32.or_assoc]

/-- the first four bytes of a block enter the state as one word -/
theorem window4 (c : UInt32) (b0 b1 b2 b3 : UInt8) :
    [b0, b1, b2, b3].foldl byteStep c = bitSteps 32 (c ^^^ u32OfLe b0 b1 b2 b3) := by
  rw [u32OfLe_eq_leVal]; exact foldl_window [b0, b1, b2, b3] c (Nat.le_refl 4)

theorem crcBlock_eq (c : UInt32) (b0 b1 b2 b3 b4 b5 b6 b7 b8 b9 b10 b11 b12 b13 b14 b15 : UInt8) :
    crcBlock c b0 b1 b2 b3 b4 b5 b6 b7 b8 b9 b10 b11 b12 b13 b14 b15
      = [b0, b1, b2, b3, b4, b5, b6, b7, b8, b9, b10, b11, b12, b13, b14, b15].foldl byteStep c := by
  have e : [b0, b1, b2, b3, b4, b5, b6, b7, b8, b9, b10, b11, b12, b13, b14, b15]
      = [b0, b1, b2, b3] ++ [b4, b5, b6, b7, b8, b9, b10, b11, b12, b13, b14, b15] := rfl
  rw [e, List.foldl_append, window4]
  -- the other twelve bytes: by linearity each contributes its own table entry; the state after
  -- the first four stays one term `s` while the steps are pushed through the xors
  generalize hs : bitSteps 32 (c ^^^ u32OfLe b0 b1 b2 b3) = s
  simp only [List.foldl_cons, List.foldl_nil, byteStep, bitSteps_xor, ← bitSteps_add, Nat.reduceAdd]
  subst hs
  rw [← bitSteps_add, bitSteps128_bytes]
  simp only [crcBlock, tbl16_eq, Nat.reduceLT, Nat.reduceAdd, Nat.reduceMul]
  -- `ac_rfl` asks of every term whether it is the neutral element, and would unfold `bitSteps` to find out
  generalize bitSteps = f
  ac_rfl

theorem crcLoop_eq (c : UInt32) (buf : List UInt8) : crcLoop c buf = buf.foldl byteStep c := by
  fun_induction crcLoop c buf with
  | case1 c b0 b1 b2 b3 b4 b5 b6 b7 b8 b9 b10 b11 b12 b13 b14 b15 rest ih =>
    -- not `rfl`: the unifier would unfold `byteStep` down to the bit steps before the two folds
    rw [ih, crcBlock_eq]
    simp only [List.foldl_cons, List.foldl_nil]
  | case2 c buf _ => rw [show crcByte = byteStep from funext fun c => funext (crcByte_eq c)]

/-! ### the bit step is injective -/

theorem bitStep_ker (x : UInt32) (h : bitStep x = 0) : x = 0 := by
  have h1 := bitStep_toNat x
  rw [h, UInt32.toNat_zero, stepN] at h1
  have hlt := x.toNat_lt
  apply UInt32.toNat_inj.mp
  rw [UInt32.toNat_zero]
  split at h1
  · -- odd: `x / 2` would be the polynomial, but bit 31 of the polynomial is set
    have hx := congrArg (· ^^^ 0x82F63B78) h1
    simp only [Nat.xor_assoc, Nat.xor_self, Nat.xor_zero, Nat.zero_xor] at hx
    omega
  · omega

theorem bitSteps_ker (n : Nat) (x : UInt32) (h : bitSteps n x = 0) : x = 0 := by
  induction n generalizing x with
  | zero => exact h
  | succ n ih => exact bitStep_ker x (ih _ h)

theorem bitSteps_inj (n : Nat) (a b : UInt32) (h : bitSteps n a = bitSteps n b) : a = b := by
  apply UInt32.xor_eq_zero_iff.mp
  apply bitSteps_ker n
  rw [bitSteps_xor, h, UInt32.xor_self]

/-- for a fixed byte the byte step is injective in the state -/
theorem byteStep_inj_state (b : UInt8) (c c' : UInt32) (h : byteStep c b = byteStep c' b) : c = c' :=
  (UInt32.xor_left_inj _).mp (bitSteps_inj 8 _ _ h)

theorem foldl_byteStep_inj (l : List UInt8) (c c' : UInt32)
    (h : l.foldl byteStep c = l.foldl byteStep c') : c = c' := by
  induction l generalizing c c' with
  | nil => exact h
  | cons b l ih => exact byteStep_inj_state b _ _ (ih _ _ h)

/-! ### the mask is injective -/

/-- rotating right by `a` (written with shifts, `a + b = w`) is undone by rotating left by `a` -/
theorem rotl_rotr {w a b : Nat} (h : a + b = w) (x : BitVec w) :
    (((x >>> a) ||| (x <<< b)) <<< a) ||| (((x >>> a) ||| (x <<< b)) >>> b) = x := by
  ext i hi
  simp only [BitVec.getElem_or, BitVec.getElem_shiftLeft, BitVec.getElem_ushiftRight,
    BitVec.getLsbD_or, BitVec.getLsbD_shiftLeft, BitVec.getLsbD_ushiftRight]
  by_cases hia : i < a
  · -- bit `i` comes from the right-shifted copy: bit `b + i` of the inner left-shifted one
    have e : a + (b + i) = w + i := by omega
    have h1 : b + i < w := by omega
    have h2 : ¬ b + i < b := by omega
    simp [hia, e, h1, h2, BitVec.getLsbD_eq_getElem hi]
  · have h1 : a + (i - a) = i := by omega
    have h2 : ¬ b + i < w := by omega
    have h3 : ¬ b ≤ i - a := by omega
    simp [hia, h1, h2, h3, BitVec.getLsbD_of_ge x (a + (b + i)) (by omega), BitVec.getLsbD_eq_getElem hi]

theorem rot_inv (x : UInt32) :
    (((x >>> 15) ||| (x <<< 17)) <<< 15) ||| (((x >>> 15) ||| (x <<< 17)) >>> 17) = x := by
  apply UInt32.eq_of_toBitVec_eq
  simp only [UInt32.toBitVec_or, UInt32.toBitVec_shiftLeft, UInt32.toBitVec_shiftRight]
  exact rotl_rotr (by decide) x.toBitVec

/-! ### changes within four consecutive bytes -/

theorem lo_of_cons (b : UInt8) (v : UInt32) : (b.toUInt32 ^^^ (v <<< 8)).toUInt8 = b := by
  have h : (v <<< 8).toUInt8 = 0 := UInt8.toNat_inj.mp (by rw [UInt32.toNat_toUInt8, shl8_toNat]; rfl)
  rw [UInt32.toUInt8_xor, UInt8.toUInt8_toUInt32, h, UInt8.xor_zero]

theorem leVal_inj (w1 w2 : List UInt8) (hl : w1.length = w2.length) (h4 : w1.length ≤ 4)
    (h : leVal w1 = leVal w2) : w1 = w2 := by
  induction w1 generalizing w2 with
  | nil => cases w2 with
    | nil => rfl
    | cons _ _ => simp at hl
  | cons b w ih =>
    cases w2 with
    | nil => simp at hl
    | cons b' w' =>
      simp only [List.length_cons] at hl h4
      simp only [leVal] at h
      have hb : b = b' := by
        have := congrArg UInt32.toUInt8 h
        rwa [lo_of_cons, lo_of_cons] at this
      subst hb
      have hv := (UInt32.xor_right_inj _).mp h
      have hv2 : leVal w <<< 8 >>> 8 = leVal w' <<< 8 >>> 8 := by rw [hv]
      have hw := Nat.le_of_succ_le_succ h4
      rw [shl_shr_small _ (leVal_small w hw), shl_shr_small _ (leVal_small w' (Nat.succ.inj hl ▸ hw))] at hv2
      rw [ih w' (Nat.succ.inj hl) (Nat.le_of_succ_le h4) hv2]

end CrcP

open Spec

/-! ## C08 -/

/-- slice-by-16 over the generated tables is the bitwise CRC-32C, for every buffer -/
theorem C08_slice16 (prev : UInt32) (buf : List UInt8) :
    crc32cSlice16 prev buf = Spec.crcBitwise prev buf := by
  rw [crc32cSlice16, CrcP.crcLoop_eq, Spec.crcBitwise]

theorem crcBitwise_append (prev : UInt32) (a b : List UInt8) :
    Spec.crcBitwise (Spec.crcBitwise prev a) b = Spec.crcBitwise prev (a ++ b) := by
  simp only [Spec.crcBitwise, UInt32.not_not, List.foldl_append]

theorem C08_chunking (s : Summer) (a b : List UInt8) : (s.update a).update b = s.update (a ++ b) := by
  simp only [Summer.update, C08_slice16, crcBitwise_append]

example : ((Summer.mk 7).update [1, 2, 3]).update [4, 5] = (Summer.mk 7).update [1, 2, 3, 4, 5] :=
  C08_chunking _ _ _

/-- two buffers that differ only inside a window of at most 4 consecutive whole bytes have different CRCs
(a 32-bit burst that starts inside a byte touches five and is not covered) -/
theorem crcBitwise_burst (pre post w1 w2 : List UInt8) (hl : w1.length = w2.length)
    (h4 : w1.length ≤ 4) (hne : w1 ≠ w2) (prev : UInt32) :
    Spec.crcBitwise prev (pre ++ w1 ++ post) ≠ Spec.crcBitwise prev (pre ++ w2 ++ post) := by
  intro h
  simp only [Spec.crcBitwise, List.foldl_append] at h
  have h1 := CrcP.foldl_byteStep_inj _ _ _ (UInt32.not_inj.mp h)
  rw [CrcP.foldl_window w1 _ h4, CrcP.foldl_window w2 _ (hl ▸ h4), hl] at h1
  exact hne (CrcP.leVal_inj w1 w2 hl h4 ((UInt32.xor_right_inj _).mp (CrcP.bitSteps_inj _ _ _ h1)))

/-- in particular two buffers that differ in exactly one byte -/
theorem C08_single_byte (pre post : List UInt8) (x y : UInt8) (hxy : x ≠ y) (prev : UInt32) :
    crc32cSlice16 prev (pre ++ x :: post) ≠ crc32cSlice16 prev (pre ++ y :: post) := by
  rw [C08_slice16, C08_slice16]
  simpa using crcBitwise_burst pre post [x] [y] rfl (by simp) (by simpa using hxy) prev

theorem maskedSum_injective (x y : UInt32) (h : maskedSum x = maskedSum y) : x = y := by
  rw [maskedSum, maskedSum, UInt32.add_left_inj] at h
  rw [← CrcP.rot_inv x, ← CrcP.rot_inv y, h]

theorem C08_masked_single_byte (pre post : List UInt8) (x y : UInt8) (hxy : x ≠ y) (prev : UInt32) :
    maskedSum (crc32cSlice16 prev (pre ++ x :: post))
      ≠ maskedSum (crc32cSlice16 prev (pre ++ y :: post)) :=
  fun h => C08_single_byte pre post x y hxy prev (maskedSum_injective _ _ h)

example : crc32cSlice16 0 ([1, 2] ++ 3 :: [4]) ≠ crc32cSlice16 0 ([1, 2] ++ 7 :: [4]) :=
  C08_single_byte [1, 2] [4] 3 7 (by decide) 0

example : ((Summer.mk 0).update ([1, 2] ++ 3 :: [4])).masked ≠ ((Summer.mk 0).update ([1, 2] ++ 7 :: [4])).masked :=
  C08_masked_single_byte [1, 2] [4] 3 7 (by decide) 0

theorem C08_burst (pre post w1 w2 : List UInt8) (hl : w1.length = w2.length)
    (h4 : w1.length ≤ 4) (hne : w1 ≠ w2) (prev : UInt32) :
    crc32cSlice16 prev (pre ++ w1 ++ post) ≠ crc32cSlice16 prev (pre ++ w2 ++ post) := by
  rw [C08_slice16, C08_slice16]; exact crcBitwise_burst pre post w1 w2 hl h4 hne prev

example : crc32cSlice16 0 ([9] ++ [1, 2, 3, 4] ++ [5, 6]) ≠ crc32cSlice16 0 ([9] ++ [1, 0, 3, 7] ++ [5, 6]) :=
  C08_burst [9] [5, 6] [1, 2, 3, 4] [1, 0, 3, 7] rfl (by decide) (by decide) 0

/-! ### test vectors (the "check" value of CRC-32C and RFC 3720 B.4) -/

example : Spec.crcBitwise 0 [0x31, 0x32, 0x33, 0x34, 0x35, 0x36, 0x37, 0x38, 0x39] = 0xE3069283 := by
  decide +kernel
example : Spec.crcBitwise 0 (List.replicate 32 0) = 0x8A9136AA := by decide +kernel
example : Spec.crcBitwise 0 (List.replicate 32 0xFF) = 0x62A8AB43 := by decide +kernel
example : Spec.crcBitwise 0 ((List.range 32).map UInt8.ofNat) = 0x46DD794E := by decide +kernel
example : Spec.crcBitwise 0 ((List.range 32).reverse.map UInt8.ofNat) = 0x113FDB5C := by decide +kernel
example : crc32cSlice16 0 [0x31, 0x32, 0x33, 0x34, 0x35, 0x36, 0x37, 0x38, 0x39] = 0xE3069283 := by
  rw [C08_slice16]; decide +kernel
example : crc32cSlice16 0 ((List.range 32).map UInt8.ofNat) = 0x46DD794E := by
  rw [C08_slice16]; decide +kernel

end Fst
