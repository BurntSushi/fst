import FstVerif.Model.Reader
/-
Shared vocabulary of the deep proofs: the abstract node store, its
denotation, and the two interfaces between the proof layers.

* `Store` — the nodes a builder emitted, as (address, node) pairs in emission
  order. Address 0 is the shared empty final node and is never in the store.
* `GoodStore s den` — what the algorithms over nodes need to know about a store
  and its denotation `den : address → sorted association list`
  (proved for builder output in Proofs/BuildStore.lean, `goodStore_of_OutOK`; for whole builds
  in Proofs/BuildSide.lean, `build_ok`).
* `Represents acc s` — the byte-level (or any other) node access returns
  exactly the nodes of `s` (proved for builder output in Proofs/EndToEndFile.lean, `file_represents`).
-/
namespace Fst

abbrev Store := List (Nat × BNode)

def lift (b : UInt8) (o : Nat) (l : KV) : KV := l.map fun kv => (b :: kv.1, o + kv.2)

def own (n : BNode) : KV := if n.fin then [([], n.fout)] else []

/-- what a node spells, given what its targets spell -/
def denNodeWith (d : Nat → KV) (n : BNode) : KV :=
  own n ++ n.trans.flatMap fun t => lift t.inp t.out (d t.addr)

/-- inputs of a node strictly increasing -/
def SortedInputs (n : BNode) : Prop := n.trans.Pairwise fun a b => a.inp < b.inp

structure GoodStore (s : Store) (den : Nat → KV) : Prop where
  den_zero : den 0 = [([], 0)]
  unfold : ∀ a n, (a, n) ∈ s → den a = denNodeWith den n
  addr_pos : ∀ a n, (a, n) ∈ s → 0 < a
  functional : ∀ a n m, (a, n) ∈ s → (a, m) ∈ s → n = m
  acyclic : ∀ a n, (a, n) ∈ s → ∀ t ∈ n.trans, t.addr < a ∧ (t.addr = 0 ∨ ∃ m, (t.addr, m) ∈ s)
  sorted : ∀ a n, (a, n) ∈ s → SortedInputs n

/-- index of the transition on byte `b` -/
def transIdx (n : BNode) (b : UInt8) : Option Nat :=
  n.trans.findIdx? fun t => t.inp == b

/-- the node stored at an address (address 0 = the empty final node) -/
def nodeAt (s : Store) (a : Nat) : Option BNode :=
  if a = 0 then some ⟨true, 0, []⟩ else s.lookup a

/-- a node access that returns exactly the nodes of `s` -/
structure Represents {N : Type} (acc : NodeAccess N) (s : Store) : Prop where
  node : ∀ a n, nodeAt s a = some n → ∃ x, acc.node a = some x ∧ acc.addr x = a ∧
    acc.isFinal x = n.fin ∧ acc.finalOutput x = n.fout ∧ acc.len x = n.trans.length ∧
    (∀ i (h : i < n.trans.length), acc.transition x i = some n.trans[i] ∧
        acc.transitionAddr x i = some n.trans[i].addr) ∧
    (∀ b, acc.findInput x b = some (transIdx n b))

/-- strict key order on association lists -/
def SortedKV : KV → Prop
  | [] => True
  | [_] => True
  | a :: b :: rest => lexLt a.1 b.1 = true ∧ SortedKV (b :: rest)

def lookupKV (m : KV) (k : Key) : Option Nat := (m.find? fun kv => kv.1 == k).map (·.2)

end Fst
