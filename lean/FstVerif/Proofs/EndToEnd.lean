import FstVerif.Proofs.EndToEndFile
import FstVerif.Proofs.Lookup
import FstVerif.Proofs.Seek
/-
The BYTES the builder writes, as a reader sees them: `Reads` (open, verify, full stream, `get`,
`contains_key`, every range and automaton); `reads_of_build` for any reachable builder state;
`map_file` / `set_file` for whole builds. The property theorems of Props C01–C04, C06, C16 read
their clauses off `Reads`.

Hypotheses carried by the final theorems, beyond sortedness: `ty < 2^64`, every value `< 2^64`,
`kvs.length < 2^64` (the `len` footer field; not implied by the file size: a small automaton
can hold more than `2^64` keys), and — as a premise on the result — `bytes.length < 2^64`.
-/
namespace Fst
namespace E2E
open BuildP OpenProofs

theorem map_build (rows cols : Nat) (kvs : KV) (hs : SortedKV kvs)
    (hv : ∀ kv ∈ kvs, kv.2 < 2^64) :
    ∃ s s' root, insertAll (BState.new rows cols) kvs = .ok s ∧ s.finish = .ok (s', root) ∧
      Reachable s ∧ Finished s' root kvs ∧ Tight (storeOf s') (denOf (storeOf s')) ∧ OutBound s' := by
  obtain ⟨s, s', root, e, f, hr, F, t, b⟩ := build_map rows cols hs
  exact ⟨s, s', root, e, f, hr, F, t,
    outBound_of_le (by decide) (b (2^64 - 1) fun kv hkv => Nat.le_sub_one_of_lt (hv kv hkv))⟩

/-- what a reader sees of a file whose content (as a sorted association list) is `kvs` -/
structure Reads (bytes : List UInt8) (ty : Nat) (kvs : KV) (m : Meta) : Prop where
  opened : fstNew (Src.ofList bytes) = .ok m
  version : m.version = 3
  ty_eq : m.ty = ty
  len_eq : m.len = kvs.length
  verified : fstVerify m (Src.ofList bytes) = .ok ()
  /-- the full stream yields `kvs`, in order -/
  stream : ∃ s0, streamNew (byteAccess 3 (Src.ofList bytes)) autAlways m.rootAddr .unbounded .unbounded
        = some s0 ∧
      ∃ N, ∀ fuel, N ≤ fuel →
        streamCollect (byteAccess 3 (Src.ofList bytes)) autAlways m.rootAddr fuel s0 [] =
          some (kvs.map fun kv => (kv.1, kv.2, ()))
  get : ∀ key, fstGet (byteAccess 3 (Src.ofList bytes)) m.rootAddr key = some (lookupKV kvs key)
  contains : ∀ key, fstContains (byteAccess 3 (Src.ofList bytes)) m.rootAddr key =
      some (kvs.any fun kv => kv.1 == key)
  /-- every range and every automaton obeying the `Automaton` contract -/
  search : ∀ {σ : Type} (A : Aut σ), (∀ x, A.acceptEof x = none) →
      (∀ x, A.canMatch x = false → ∀ w, A.isMatch (A.run x w) = false) → ∀ (min max : Bound),
      ∃ s0, streamNew (byteAccess 3 (Src.ofList bytes)) A m.rootAddr min max = some s0 ∧
      ∃ N, ∀ fuel, N ≤ fuel →
        streamCollect (byteAccess 3 (Src.ofList bytes)) A m.rootAddr fuel s0 [] =
          some ((kvs.filter fun kv => lowerOK min kv.1 && upperOK max kv.1 && A.accepts kv.1).map
                  fun kv => (kv.1, kv.2, A.run A.start kv.1))

theorem reads_of_build {s s' : BState} {root : Nat} {kvs : KV} (hr : Reachable s) (ty : Nat)
    (hfin : s.finish = .ok (s', root)) (hty : ty < 2^64) (F : Finished s' root kvs)
    (hn : kvs.length < 2^64) (hb : OutBound s') (hsz : (fileOf ty s' root).length < 2^64) :
    ∃ m, Reads (fileOf ty s' root) ty kvs m ∧ m.rootAddr = root ∧
      Represents (byteAccess 3 (Src.ofList (fileOf ty s' root))) (storeOf s') ∧
      root < (fileOf ty s' root).length := by
  obtain ⟨hg, hden, hlen, hroot⟩ := F
  subst hden
  obtain ⟨h1, h2⟩ := file_open hr ty hfin hty (by omega) hsz
  obtain ⟨hl, hlt, _⟩ := file_shape hr hfin
  have hblen := fileOf_length hl ty root
  have h7 := file_represents hr ty hfin hb hsz 3 (by omega)
  refine ⟨_, ⟨h1, rfl, rfl, hlen, h2, ?_, fstGet_correct hg h7 _ hroot,
    fstContains_correct hg h7 _ hroot, fun A hEof hCan => stream_correct hg h7 _ hroot hEof hCan⟩,
    rfl, h7, by omega⟩
  have := stream_correct_always hg h7 _ hroot .unbounded .unbounded
  rw [filter_unbounded] at this
  exact this

/-- MAP MODE (`insert`). The fuel bound `bytes.length + 2` of `get_key_into` is what the driver
passes. -/
theorem map_file (rows cols ty : Nat) (hty : ty < 2^64) (kvs : KV) (hs : SortedKV kvs)
    (hv : ∀ kv ∈ kvs, kv.2 < 2^64) (hn : kvs.length < 2^64) :
    ∃ s bytes, insertAll (BState.new rows cols) kvs = .ok s ∧ s.fileBytes ty = .ok bytes ∧
      (bytes.length < 2^64 → ∃ m, Reads bytes ty kvs m ∧
        (Mono kvs → ∀ fuel, bytes.length + 2 ≤ fuel → ∀ (value : Nat) (buf : Key),
          (∀ k, (k, value) ∈ kvs →
            fstGetKeyInto (byteAccess 3 (Src.ofList bytes)) m.rootAddr fuel value buf =
              some (true, buf ++ k)) ∧
          ((∀ k, (k, value) ∉ kvs) →
            ∃ buf', fstGetKeyInto (byteAccess 3 (Src.ofList bytes)) m.rootAddr fuel value buf =
              some (false, buf')))) := by
  obtain ⟨s, s', root, e1, f1, hr, F, ht, hb⟩ := map_build rows cols kvs hs hv
  refine ⟨s, _, e1, fileBytes_eq ty f1, fun hsz => ?_⟩
  obtain ⟨m, R, hm, hrep, hlt⟩ := reads_of_build hr ty f1 hty F hn hb hsz
  refine ⟨m, R, fun hmono fuel hfuel value buf => ?_⟩
  have := fstGetKeyInto_correct F.good hrep root F.root (by rw [F.den]; exact hmono) ht fuel
    (by omega) value buf
  subst hm
  rw [F.den] at this
  exact this

/-- SET MODE (`add`, repeats allowed): the file holds the distinct keys, each with value 0. -/
theorem set_file (rows cols ty : Nat) (hty : ty < 2^64) (ks : List Key) (hs : SortedKeysLe ks)
    (hn : (dedupKeys ks).length < 2^64) :
    ∃ s bytes, addAll (BState.new rows cols) ks = .ok s ∧ s.fileBytes ty = .ok bytes ∧
      (bytes.length < 2^64 → ∃ m, Reads bytes ty (zeroKV (dedupKeys ks)) m) := by
  obtain ⟨s, s', root, e1, f1, hr, F, b⟩ := build_set rows cols hs
  have hb : OutBound s' := outBound_of_le (M := 0) (by decide) fun em he =>
    ⟨Nat.le_of_eq (b em he).1, fun t ht => Nat.le_of_eq ((b em he).2 t ht)⟩
  refine ⟨s, _, e1, fileBytes_eq ty f1, fun hsz => ?_⟩
  obtain ⟨m, R, _⟩ := reads_of_build hr ty f1 hty F (by simpa [zeroKV] using hn) hb hsz
  exact ⟨m, R⟩

/-- the plain range stream (`AlwaysMatch`) -/
theorem Reads.range {bytes : List UInt8} {ty : Nat} {kvs : KV} {m : Meta} (R : Reads bytes ty kvs m)
    (min max : Bound) :
    ∃ s0, streamNew (byteAccess 3 (Src.ofList bytes)) autAlways m.rootAddr min max = some s0 ∧
      ∃ N, ∀ fuel, N ≤ fuel →
        streamCollect (byteAccess 3 (Src.ofList bytes)) autAlways m.rootAddr fuel s0 [] =
          some ((kvs.filter fun kv => lowerOK min kv.1 && upperOK max kv.1).map
                fun kv => (kv.1, kv.2, ())) := by
  have := R.search autAlways autAlways_contract.1 autAlways_contract.2 min max
  simpa only [autAlways, Aut.accepts, Bool.and_true] using this

/-- `Reads.search` on the file a set builder writes -/
theorem e2e_search_set (rows cols ty : Nat) (hty : ty < 2^64) (ks : List Key)
    (hs : SortedKeysLe ks) (hn : (dedupKeys ks).length < 2^64) :
    ∃ s bytes, addAll (BState.new rows cols) ks = .ok s ∧ s.fileBytes ty = .ok bytes ∧
      (bytes.length < 2^64 →
        ∃ m, fstNew (Src.ofList bytes) = .ok m ∧
          ∀ {σ : Type} (A : Aut σ), (∀ x, A.acceptEof x = none) →
            (∀ x, A.canMatch x = false → ∀ w, A.isMatch (A.run x w) = false) →
            ∀ (min max : Bound),
            ∃ s0, streamNew (byteAccess 3 (Src.ofList bytes)) A m.rootAddr min max = some s0 ∧
            ∃ N, ∀ fuel, N ≤ fuel →
              streamCollect (byteAccess 3 (Src.ofList bytes)) A m.rootAddr fuel s0 [] =
                some (((zeroKV (dedupKeys ks)).filter fun kv =>
                        lowerOK min kv.1 && upperOK max kv.1 && A.accepts kv.1).map
                      fun kv => (kv.1, kv.2, A.run A.start kv.1))) := by
  obtain ⟨s, bytes, e1, e2, h⟩ := set_file rows cols ty hty ks hs hn
  exact ⟨s, bytes, e1, e2, fun hsz => by
    obtain ⟨m, R⟩ := h hsz
    exact ⟨m, R.opened, R.search⟩⟩

/-! non-vacuity: a concrete 4-key map (empty key, shared prefix); its bytes are in
`Proofs/EndToEndExample.lean` -/

def exKvs : KV := [([], 1), ([97], 2), ([97, 98], 3), ([99], 4)]

theorem exKvs_sorted : SortedKV exKvs := by simp [exKvs, SortedKV, lexLt]
theorem exKvs_values : ∀ kv ∈ exKvs, kv.2 < 2^64 := by decide
theorem exKvs_mono : Mono exKvs := by unfold Mono; decide

example := map_file 1 1 7 (by decide) exKvs exKvs_sorted exKvs_values (by decide)
/-- an automaton that really prunes obeys the contract of `Reads.search` -/
example : (∀ x, (autStr [97, 98]).acceptEof x = none) ∧
    (∀ x, (autStr [97, 98]).canMatch x = false →
      ∀ w, (autStr [97, 98]).isMatch ((autStr [97, 98]).run x w) = false) := autStr_contract _

/-- repeated keys, the empty key, a shared prefix -/
def exKeys : List Key := [[], [], [97], [97], [97, 98], [99]]
theorem exKeys_sorted : SortedKeysLe exKeys := by simp [exKeys, SortedKeysLe, lexLe, lexLt]
example : dedupKeys exKeys = [[], [97], [97, 98], [99]] := by decide
example := set_file 2 2 0 (by decide) exKeys exKeys_sorted (by decide)
example := e2e_search_set 2 2 0 (by decide) exKeys exKeys_sorted (by decide)

/-- a state reached through two inserts (`Props.C01_no_panic` speaks of every such state) -/
example : ∃ s, Reachable s ∧ s.last = some [97] := by
  obtain ⟨s, e1, hinv⟩ := insertAll_inv [([], 1), ([97], 2)] (BState.new 1 1) [] (Inv_new 1 1)
    (sortedAfter_none (by simp [SortedKV, lexLt]))
  exact ⟨s, reachable_insertAll _ (Reachable.new 1 1) e1, by rw [hinv.last]; rfl⟩

end E2E
end Fst
