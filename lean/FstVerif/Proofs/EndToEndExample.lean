import FstVerif.Proofs.EndToEnd
import FstVerif.Proofs.Crc
/-
Non-vacuity of the file theorems: the 51 bytes the model builder writes for `exKvs`, computed by
the kernel.
-/
namespace Fst
namespace E2E
open BuildP OpenProofs

/-- the 51 bytes the builder writes for `exKvs` (two nodes at addresses 21 and 30) -/
def exBytes : List UInt8 :=
  [3, 0, 0, 0, 0, 0, 0, 0, 7, 0, 0, 0, 0, 0, 0, 0,
   0, 1, 0, 98, 17, 65, 1, 4, 2, 0, 1, 99, 97, 17, 66,
   4, 0, 0, 0, 0, 0, 0, 0, 30, 0, 0, 0, 0, 0, 0, 0, 52, 113, 236, 71]

def exNodes : List UInt8 := [0, 1, 0, 98, 17, 65, 1, 4, 2, 0, 1, 99, 97, 17, 66]

theorem ex_finish : ((insertAll (BState.new 1 1) exKvs).toOption.bind fun s =>
    s.finish.toOption.map fun p => (p.2, p.1.len, nodeBytes p.1)) = some (30, 4, exNodes) := by
  decide +kernel

/-- The checksum is evaluated through the bitwise definition (`C08_slice16`): the kernel is
much slower on the 16 lookup tables. -/
theorem ex_frame : frame 3 7 exNodes 4 30 = exBytes := by
  rw [frame_eq, crcOf, C08_slice16]
  decide +kernel

theorem ex_bytes_eq {s : BState} {bytes : List UInt8}
    (e1 : insertAll (BState.new 1 1) exKvs = .ok s) (e2 : s.fileBytes 7 = .ok bytes) :
    bytes = exBytes := by
  obtain ⟨s', root, hfin, _⟩ := build_layout_finish (reachable_insertAll _ (Reachable.new 1 1) e1)
  have h := ex_finish
  rw [e1] at h
  simp only [Except.toOption, Option.bind_some, hfin, Option.map_some, Option.some.injEq,
    Prod.mk.injEq] at h
  obtain ⟨h1, h2, h3⟩ := h
  have hb := fileBytes_eq 7 hfin
  rw [e2] at hb
  cases hb
  rw [← ex_frame, ← h1, ← h2, ← h3]
  rfl

/-- the hypotheses of `finish_root`, `file_shape`, `file_open`, `file_represents`, `file_tiling`
hold together -/
theorem ex_hyps : ∃ s s' root, Reachable s ∧ s.finish = .ok (s', root) ∧
    s.fileBytes 7 = .ok (fileOf 7 s' root) ∧ (7 : Nat) < 2^64 ∧ s'.len < 2^64 ∧ OutBound s' ∧
    (fileOf 7 s' root).length < 2^64 ∧ fileOf 7 s' root = exBytes := by
  obtain ⟨s, s', root, e1, f1, hr, F, _, hb⟩ := map_build 1 1 exKvs exKvs_sorted exKvs_values
  have hb' := ex_bytes_eq e1 (fileBytes_eq 7 f1)
  refine ⟨s, s', root, hr, f1, fileBytes_eq 7 f1, by decide, by rw [F.len]; decide, hb, ?_, hb'⟩
  rw [hb']; decide

/-- `map_file` on the concrete bytes -/
example : ∃ m, fstNew (Src.ofList exBytes) = .ok m ∧ m.version = 3 ∧ m.ty = 7 ∧ m.len = 4 ∧
    fstVerify m (Src.ofList exBytes) = .ok () ∧
    fstGet (byteAccess 3 (Src.ofList exBytes)) m.rootAddr [97, 98] = some (some 3) ∧
    fstGet (byteAccess 3 (Src.ofList exBytes)) m.rootAddr [] = some (some 1) ∧
    fstGet (byteAccess 3 (Src.ofList exBytes)) m.rootAddr [98] = some none ∧
    fstContains (byteAccess 3 (Src.ofList exBytes)) m.rootAddr [99] = some true := by
  obtain ⟨s, bytes, e1, e2, h⟩ := map_file 1 1 7 (by decide) exKvs exKvs_sorted exKvs_values (by decide)
  have hb := ex_bytes_eq e1 e2
  subst hb
  obtain ⟨m, R, _⟩ := h (by decide)
  exact ⟨m, R.opened, R.version, R.ty_eq, R.len_eq, R.verified, by rw [R.get]; rfl, by rw [R.get]; rfl,
    by rw [R.get]; rfl, by rw [R.contains]; rfl⟩

end E2E
end Fst
