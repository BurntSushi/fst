import FstVerif.Proofs.EndToEndRoot
import FstVerif.Proofs.Codec
import FstVerif.Proofs.Frame
/-
The bytes of a finished build: `fileOf` unfolds to a `frame 3 …` (Proofs/Frame.lean) around the
emitted nodes; `Fst::new` / `verify` accept it (`file_open`, C08), the byte-level node access returns
exactly the emitted nodes (`file_represents`), whose extents tile the node region (`file_tiling`, C09).
-/
namespace Fst
namespace E2E
open BuildP OpenProofs

/-- the bytes of the emitted nodes, oldest first -/
def nodeBytes (s : BState) : List UInt8 := s.out.reverse.flatMap fun e => e.chunks.flatten

def bodyBytes (ty : Nat) (s' : BState) (root : Nat) : List UInt8 :=
  u64le VERSION ++ u64le ty ++ nodeBytes s' ++ u64le s'.len ++ u64le root

def fileOf (ty : Nat) (s' : BState) (root : Nat) : List UInt8 :=
  bodyBytes ty s' root ++ u32le (crcOf (bodyBytes ty s' root))

theorem fileOf_eq (ty : Nat) (s' : BState) (root : Nat) :
    fileOf ty s' root =
      u64le VERSION ++ u64le ty ++ (s'.out.reverse.flatMap fun e => e.chunks.flatten) ++
        u64le s'.len ++ u64le root ++
        u32le (maskedSum (crc32cSlice16 0 (u64le VERSION ++ u64le ty ++
          (s'.out.reverse.flatMap fun e => e.chunks.flatten) ++ u64le s'.len ++ u64le root))).toNat :=
  rfl

theorem emit_size_flatten (e : Emit) : e.chunks.flatten.length = e.size := by
  rw [List.length_flatten]; rfl

theorem totalSize_reverse (es : List Emit) : totalSize es.reverse = totalSize es := by
  simp [totalSize, List.map_reverse, List.sum_reverse]

theorem flatMap_size_length (es : List Emit) :
    (es.flatMap fun e => e.chunks.flatten).length = totalSize es := by
  induction es with
  | nil => rfl
  | cons e es ih =>
    simp only [List.flatMap_cons, List.length_append, ih, emit_size_flatten, totalSize,
      List.map_cons, List.sum_cons]

theorem fileOf_length {s' : BState} (hl : Layout s') (ty root : Nat) :
    (fileOf ty s' root).length = s'.count + 20 := by
  simp only [fileOf, bodyBytes, nodeBytes, List.length_append, u64le_length, u32le_length,
    flatMap_size_length, totalSize_reverse, hl.count]

theorem fileBytes_eq {s s' : BState} {root : Nat} (ty : Nat) (hfin : s.finish = .ok (s', root)) :
    s.fileBytes ty = .ok (fileOf ty s' root) := by
  have : (s'.bodyChunks ty root).flatten = bodyBytes ty s' root := by
    simp [BState.bodyChunks, headerChunks, footerChunks, bodyBytes, nodeBytes, List.flatMap_def, List.flatten_flatten, Function.comp_def]
  simp only [BState.fileBytes, hfin, this]
  rfl

/-- root 0 with nothing emitted is the 36-byte FST of `{"" ↦ 0}` -/
theorem file_shape {s s' : BState} {root : Nat} (hr : Reachable s)
    (hfin : s.finish = .ok (s', root)) :
    Layout s' ∧ root < s'.count ∧
      ((root = 0 ∧ s'.out = [] ∧ s'.count = 16) ∨
       (∃ e rest, s'.out = e :: rest ∧ e.addr = root ∧ root = s'.count - 1 ∧ 16 ≤ root)) := by
  obtain ⟨s'', root', hfin', hl, _⟩ := build_layout_finish hr
  rw [hfin] at hfin'; cases hfin'
  have hroot := finish_root hr hfin
  refine ⟨hl, ?_, hroot⟩
  rcases hroot with ⟨h0, _, hc⟩ | ⟨e, rest, hout, ha, _, _⟩
  · omega
  · have := (hl.range e (by rw [hout]; exact List.mem_cons_self)).2
    omega

theorem file_exists {s : BState} (hr : Reachable s) (ty : Nat) :
    ∃ bytes, s.fileBytes ty = .ok bytes := by
  obtain ⟨s', root, hfin, _⟩ := build_layout_finish hr
  exact ⟨_, fileBytes_eq ty hfin⟩

/-- C08. The size hypotheses: the three 64-bit header/footer fields must not wrap. -/
theorem file_open {s s' : BState} {root : Nat} (hr : Reachable s) (ty : Nat)
    (hfin : s.finish = .ok (s', root))
    (hty : ty < 2^64) (hlen : s'.len < 2^64) (hsz : (fileOf ty s' root).length < 2^64) :
    fstNew (Src.ofList (fileOf ty s' root)) =
        .ok ⟨3, root, ty, s'.len, some (crcOf (bodyBytes ty s' root))⟩ ∧
    fstVerify ⟨3, root, ty, s'.len, some (crcOf (bodyBytes ty s' root))⟩
        (Src.ofList (fileOf ty s' root)) = .ok () := by
  obtain ⟨hl, hlt, hroot⟩ := file_shape hr hfin
  have hblen := fileOf_length hl ty root
  -- `fileOf ty s' root` unfolds to `frame 3 ty (nodeBytes s') s'.len root` (the same appends,
  -- `VERSION = 3`), so the statement of `frame_open` is the goal up to unfolding
  exact frame_open 3 ty s'.len root (nodeBytes s') (by omega) (by omega) hty hlen (by omega)
    (fun h0 => by
      rcases hroot with ⟨_, hout, _⟩ | ⟨_, _, _, _, _, h16⟩
      · rw [nodeBytes, hout]; rfl
      · omega)

/-- the value bound the byte layer needs: stored outputs fit in 64 bits -/
def OutBound (s : BState) : Prop :=
  ∀ e ∈ s.out, e.node.fout < 2^64 ∧ ∀ t ∈ e.node.trans, t.out < 2^64

theorem outBound_of_le {s' : BState} {M : Nat} (hM : M < 2^64)
    (h : ∀ e ∈ s'.out, e.node.fout ≤ M ∧ ∀ t ∈ e.node.trans, t.out ≤ M) : OutBound s' :=
  fun e he => ⟨Nat.lt_of_le_of_lt (h e he).1 hM, fun t ht => Nat.lt_of_le_of_lt ((h e he).2 t ht) hM⟩

/-- an emitted node as the triple `(addr, node, encoding)` of `Laid` -/
def tri (e : Emit) : Nat × BNode × List UInt8 := (e.addr, e.node, e.chunks.flatten)

theorem laid_of_layoutF (v : Nat) (hv : 2 ≤ v) : ∀ (es : List Emit) (start last : Nat),
    LayoutF start last es → (last = start - 1 ∨ last = NONE_ADDRESS) → 0 < start →
    start + totalSize es ≤ 2^64 →
    (∀ e ∈ es, e.node.trans.length ≤ 256 ∧ SortedInputs e.node ∧
      isEmptyFinal e.node = false ∧ (e.node.fin = false → e.node.fout = 0)) →
    (∀ e ∈ es, e.node.fout < 2^64 ∧ ∀ t ∈ e.node.trans, t.out < 2^64) →
    (∀ e ∈ es, ∀ t ∈ e.node.trans, t.addr ≠ NONE_ADDRESS) →
    Laid v start (es.map tri) := by
  intro es
  induction es with
  | nil =>
    intros
    trivial
  | cons e es ih =>
    intro start last hl hlast hpos hsz hshape hbound hone
    obtain ⟨l1, l2, l3, l4, l5⟩ := hl
    have c1 : compileNode e.node last start = some e.chunks.flatten := by
      rw [← compileNodeC_flatten, l1]; rfl
    have hsize : e.chunks.flatten.length = e.size := emit_size_flatten e
    obtain ⟨s1, s2, s3, s4⟩ := hshape e List.mem_cons_self
    -- `totalSize (e :: es)` in `hsz` unfolds to `e.size + totalSize es`, and `0 < e.size`
    have hsmall : start < 2^64 :=
      Nat.lt_of_lt_of_le (Nat.lt_add_of_pos_right (Nat.add_pos_left l2 _)) hsz
    have wf : WFNode e.node last start :=
      WFNode.ofBuilder s1 s2 (fun t ht => Or.inr (l4 t ht)) (hbound e List.mem_cons_self)
        hsmall hpos s3 hlast (hone e List.mem_cons_self) s4
    refine ⟨⟨last, wf, c1⟩, ?_, Or.inl hv, ?_⟩
    · show e.addr = start + e.chunks.flatten.length - 1
      rw [hsize]; exact l3
    · show Laid v (start + e.chunks.flatten.length) (es.map tri)
      rw [hsize]
      exact ih (start + e.size) e.addr l5 (Or.inl l3) (Nat.add_pos_left hpos _)
        (by rw [Nat.add_assoc]; exact hsz) (fun x hx => hshape x (List.mem_cons_of_mem _ hx))
        (fun x hx => hbound x (List.mem_cons_of_mem _ hx))
        (fun x hx => hone x (List.mem_cons_of_mem _ hx))

theorem layout_laid {s' : BState} (hl : Layout s') (hb : OutBound s') (hsz : s'.count ≤ 2^64)
    (v : Nat) (hv : 2 ≤ v) : Laid v 16 (s'.out.reverse.map tri) := by
  refine laid_of_layoutF v hv _ 16 NONE_ADDRESS hl.nodes (Or.inr rfl) (by omega)
    (by rw [totalSize_reverse, ← hl.count]; exact hsz) ?_ ?_ ?_
  · intro e he; exact hl.shape e (List.mem_reverse.mp he)
  · intro e he; exact hb e (List.mem_reverse.mp he)
  · intro e he t ht h1
    have he' := List.mem_reverse.mp he
    rcases (hl.targets e he' t ht).2 with h0 | ⟨e', he2, ha, _⟩
    · simp only [NONE_ADDRESS] at h1; omega
    · have := (hl.range e' he2).1
      simp only [NONE_ADDRESS] at h1; omega

theorem file_split (ty : Nat) (s' : BState) (root : Nat) :
    ∃ post, fileOf ty s' root =
      (u64le VERSION ++ u64le ty) ++ (s'.out.reverse.map tri).flatMap (·.2.2) ++ post := by
  obtain ⟨post, h⟩ := frame_split 3 ty (nodeBytes s') s'.len root
  exact ⟨post, by rw [List.flatMap_map]; exact h⟩

theorem storeOf_tri (s' : BState) :
    ((s'.out.reverse.map tri).map fun e => (e.1, e.2.1)) = storeOf s' := by
  simp [storeOf, tri, List.map_map, Function.comp_def]

/-- also for `v = 2`: the same bytes read by a version-2 reader -/
theorem file_represents {s s' : BState} {root : Nat} (hr : Reachable s) (ty : Nat)
    (hfin : s.finish = .ok (s', root)) (hb : OutBound s')
    (hsz : (fileOf ty s' root).length < 2^64) (v : Nat) (hv : 2 ≤ v) :
    Represents (byteAccess v (Src.ofList (fileOf ty s' root))) (storeOf s') := by
  obtain ⟨hl, _, _⟩ := file_shape hr hfin
  have hblen := fileOf_length hl ty root
  have hlaid := layout_laid hl hb (by omega) v hv
  obtain ⟨post, hpost⟩ := file_split ty s' root
  have := byteAccess_represents v (s'.out.reverse.map tri) (u64le VERSION ++ u64le ty) post
    (by simpa [u64le_length] using hlaid)
  rw [← hpost, storeOf_tri] at this
  exact this

/-- address of the first byte of an emitted node -/
def firstByte (e : Emit) : Nat := e.addr + 1 - e.size

theorem totalSize_append (a b : List Emit) : totalSize (a ++ b) = totalSize a + totalSize b := by
  simp only [totalSize, List.map_append, List.sum_append]

/-- a node of a laid-out list sits right after the bytes of the nodes before it -/
theorem layoutF_at : ∀ (pre : List Emit) (start last : Nat) (e : Emit) (post : List Emit),
    LayoutF start last (pre ++ e :: post) →
    1 ≤ e.size ∧ firstByte e = start + totalSize pre ∧ e.addr + 1 = start + totalSize pre + e.size
  | [], start, last, e, post, h => by
    obtain ⟨_, l2, l3, _⟩ := h
    simp only [firstByte, totalSize, List.map_nil, List.sum_nil]
    omega
  | p :: pre, start, last, e, post, h => by
    simp only [totalSize, List.map_cons, List.sum_cons, ← Nat.add_assoc]
    exact layoutF_at pre _ _ e post h.2.2.2.2

/-- C09: the emitted nodes tile `[16, count)`, the reader reports each node's extent as
`end_ = ` its first byte and `start = ` its address, and targets point backwards. -/
theorem file_tiling {s s' : BState} {root : Nat} (hr : Reachable s) (ty : Nat)
    (hfin : s.finish = .ok (s', root)) (hb : OutBound s')
    (hsz : (fileOf ty s' root).length < 2^64) (v : Nat) (hv : 2 ≤ v) :
    (∀ e ∈ s'.out.reverse.head?, firstByte e = 16) ∧
    (∀ pre e1 e2 post, s'.out.reverse = pre ++ e1 :: e2 :: post → firstByte e2 = e1.addr + 1) ∧
    (∀ e ∈ s'.out.reverse.getLast?, e.addr = s'.count - 1) ∧
    (∀ e ∈ s'.out, 1 ≤ e.size ∧ 16 ≤ firstByte e ∧ e.addr < s'.count) ∧
    (∀ e ∈ s'.out, ∃ rn, nodeNew v (Src.ofList (fileOf ty s' root)) e.addr = some rn ∧
      rn.start = e.addr ∧ rn.end_ = firstByte e ∧ rn.toBNode (Src.ofList (fileOf ty s' root)) = some e.node) ∧
    (∀ e ∈ s'.out, ∀ t ∈ e.node.trans,
      t.addr = 0 ∨ ∃ e' ∈ s'.out, e'.addr = t.addr ∧ e'.addr < e.addr) := by
  obtain ⟨hl, _, _⟩ := file_shape hr hfin
  have hblen := fileOf_length hl ty root
  have hlaid := layout_laid hl hb (by omega) v hv
  obtain ⟨post, hpost⟩ := file_split ty s' root
  have hdec : ∀ e ∈ s'.out, 1 ≤ e.size ∧ 16 ≤ firstByte e ∧
      ∃ rn, nodeNew v (Src.ofList (fileOf ty s' root)) e.addr = some rn ∧
      rn.start = e.addr ∧ rn.end_ = firstByte e ∧
      rn.toBNode (Src.ofList (fileOf ty s' root)) = some e.node := by
    intro e he
    obtain ⟨st, hseg, ⟨last, wf, henc⟩, haddr, hvv⟩ :=
      laid_mem v (s'.out.reverse.map tri) 16 (u64le VERSION ++ u64le ty) post
        (by simp [u64le_length]) hlaid (tri e)
        (List.mem_map.mpr ⟨e, List.mem_reverse.mpr he, rfl⟩)
    rw [← hpost] at hseg
    obtain ⟨_, rn, hrn, D⟩ := codec_seg v e.node last st e.chunks.flatten _ hvv wf henc hseg
    obtain ⟨pre, post', hpp⟩ := List.append_of_mem (List.mem_reverse.mpr he)
    obtain ⟨hlen, h16, _⟩ := layoutF_at pre 16 NONE_ADDRESS e post' (hpp ▸ hl.nodes)
    have haddr' : e.addr = st + e.size - 1 := by
      have : e.addr = st + e.chunks.flatten.length - 1 := haddr
      rw [emit_size_flatten] at this; exact this
    have hfirst : firstByte e = st := by
      rw [firstByte, haddr', Nat.sub_add_cancel (Nat.le_trans hlen (Nat.le_add_left ..)), Nat.add_sub_cancel]
    rw [emit_size_flatten, ← haddr'] at hrn D
    exact ⟨hlen, Nat.le.intro h16.symm, rn, hrn, D.start_eq, by rw [D.end_eq, hfirst], D.toBNode⟩
  refine ⟨?_, ?_, ?_, ?_, ?_, ?_⟩
  · intro e he
    obtain ⟨tl, htl⟩ := List.head?_eq_some_iff.mp he
    exact (layoutF_at [] 16 NONE_ADDRESS e tl (htl ▸ hl.nodes)).2.1
  · intro pre e1 e2 post h
    have hn := hl.nodes
    rw [h] at hn
    have h1 := layoutF_at pre 16 NONE_ADDRESS e1 (e2 :: post) hn
    have h2 := layoutF_at (pre ++ [e1]) 16 NONE_ADDRESS e2 post (by simpa using hn)
    rw [h2.2.1, h1.2.2, totalSize_append, ← Nat.add_assoc]
    rfl -- `totalSize [e1]` reduces to `e1.size`
  · intro e he
    obtain ⟨pre, hpre⟩ := List.getLast?_eq_some_iff.mp he
    have := layoutF_at pre 16 NONE_ADDRESS e [] (hpre ▸ hl.nodes)
    rw [hl.count, ← totalSize_reverse, hpre, totalSize_append, ← Nat.add_assoc]
    exact Nat.eq_sub_of_add_eq this.2.2 -- `totalSize [e]` reduces to `e.size`
  · intro e he
    exact ⟨(hdec e he).1, (hdec e he).2.1, (hl.range e he).2⟩
  · intro e he; exact (hdec e he).2.2
  · intro e he t ht; exact (hl.targets e he t ht).2

/-- non-vacuity (all hypotheses together on concrete bytes: `ex_hyps`, Proofs/EndToEndExample.lean) -/
example : ∃ s bytes, Reachable s ∧ s.fileBytes 5 = .ok bytes := by
  obtain ⟨bytes, h⟩ := file_exists (Reachable.new 3 2) 5
  exact ⟨_, bytes, Reachable.new 3 2, h⟩

end E2E
end Fst
