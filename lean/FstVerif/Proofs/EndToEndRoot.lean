import FstVerif.Proofs.BuildReach
/-
Where the root of a finished build lands.

Every emitted node is reachable from the root (`finish_reach`), hence lies at or below it:

* `finish_root` — for a reachable state, the root address returned by `finish` is either 0 and
  nothing at all was emitted (the FST is `{"" ↦ 0}`), or it is the address of the node
  emitted last (the root is never served from the registry).
-/
namespace Fst
namespace E2E

def nodeTargets (n : BNode) : List Nat := n.trans.map (·.addr)

theorem mem_nodeTargets_freeze {u : UNode} {a x : Nat} (h : x ∈ nodeTargets (u.freeze a)) :
    x ∈ nodeTargets u.node ∨ x = a := by
  obtain ⟨t, ht, rfl⟩ := List.mem_map.mp h
  rcases mem_freeze.mp ht with ht | ⟨b, o, _, rfl⟩
  · exact Or.inl (List.mem_map.mpr ⟨t, ht, rfl⟩)
  · exact Or.inr rfl

/-- the root address of a finished build is 0 with nothing emitted at all, or the
address of the node emitted last, which is the last byte of the node region -/
theorem finish_root {s s' : BState} {root : Nat} (hr : Reachable s)
    (hf : s.finish = .ok (s', root)) :
    (root = 0 ∧ s'.out = [] ∧ s'.count = 16) ∨
    (∃ e rest, s'.out = e :: rest ∧ e.addr = root ∧ root = s'.count - 1 ∧ 16 ≤ root) := by
  obtain ⟨acc, hinv⟩ := reachable_inv hr
  have hle := finish_le_root hr hf
  have F := finish_spec hinv.core hf
  have hlay := layout_of_SInv F.sinv
  cases hout : s'.out with
  | nil =>
    left
    have hc := hlay.count
    rw [hout] at hc
    rcases F.addr.2 with h0 | ⟨n, hn⟩
    · exact ⟨h0, rfl, by simpa [totalSize] using hc⟩
    · rw [hout] at hn; simp [rstore] at hn
  | cons e rest =>
    right
    have he : e ∈ s'.out := by rw [hout]; exact List.mem_cons_self
    have h16 := (hlay.range e he).1
    have hroot : e.addr = root := by
      rcases F.addr.2 with h0 | ⟨n, hn⟩
      · have := hle e he; omega
      · simp only [rstore, List.mem_map, Prod.mk.injEq] at hn
        obtain ⟨e', he', ha, _⟩ := hn
        have h1 := hle e he
        rw [hout] at he'
        rcases List.mem_cons.mp he' with rfl | he'
        · exact ha
        · have hinc := hlay.increasing
          rw [hout, List.reverse_cons, List.pairwise_append] at hinc
          have := hinc.2.2 e' (by simpa using he') e (by simp)
          omega
    refine ⟨e, rest, rfl, hroot, ?_, by omega⟩
    have hsinv := F.sinv.out
    rw [hout] at hsinv
    obtain ⟨c0, l0, _, _, _, g3, g4, _⟩ := hsinv
    rw [← hroot, g3, g4]

/-- the hypotheses of `finish_root` are satisfiable: any reachable state finishes
(a full concrete build is `ex_hyps` in `Proofs/EndToEndExample.lean`) -/
example : ∃ s s' root, Reachable s ∧ s.finish = .ok (s', root) := by
  obtain ⟨s', root, h, _⟩ := build_layout_finish (Reachable.new 3 2)
  exact ⟨_, s', root, Reachable.new 3 2, h⟩

end E2E
end Fst
