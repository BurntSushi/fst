import FstVerif.Proofs.Seek
/-
Removing the `hEof` assumption of `stream_correct` by simulation: an automaton `A` with an
`accept_eof` hook is simulated by the hook-free automaton `eofLift A` over `σ × Bool`.
-/
namespace Fst
open StreamP Bounds

variable {N σ : Type}

/-- hook-free automaton over σ × Bool (flag = "at least one byte consumed") that behaves as A with its hook -/
def eofLift {σ} (A : Aut σ) : Aut (σ × Bool) where
  start := (A.start, false)
  isMatch := fun x => if x.2 then A.eofMatch x.1 else A.isMatch x.1
  canMatch := fun x => A.canMatch x.1
  willAlwaysMatch := fun _ => false
  accept := fun x b => (A.accept x.1 b, true)
  acceptEof := fun _ => none

/-- which keys `next_with` lets through for an automaton WITH hook: the empty key never consults the hook -/
def Aut.acceptsEof {σ} (A : Aut σ) (k : Key) : Bool :=
  if k.isEmpty then A.isMatch A.start else A.eofMatch (A.run A.start k)

def projFrame (f : Frame N (σ × Bool)) : Frame N σ :=
  { node := f.node, trans := f.trans, out := f.out, autState := f.autState.1 }

def projS (s : SState N (σ × Bool)) : SState N σ :=
  { inp := s.inp, emptyOutput := s.emptyOutput, stack := s.stack.map projFrame, endAt := s.endAt }

def projRes : StepRes N (σ × Bool) → StepRes N σ
  | .panic => .panic
  | .done s => .done (projS s)
  | .emit k v st s => .emit k v st.1 (projS s)
  | .cont s => .cont (projS s)

theorem seekLoop_proj (acc : NodeAccess N) (A : Aut σ) (key : Key) (node : N) (out : Nat)
    (st : σ × Bool) (inp : Key) (stack : List (Frame N (σ × Bool))) :
    seekLoop acc A key node out st.1 inp (stack.map projFrame) =
      (seekLoop acc (eofLift A) key node out st inp stack).map
        (fun (i, stk, r) => (i, stk.map projFrame, r.map fun (n, o, x) => (n, o, x.1))) := by
  induction key generalizing node out st inp stack with
  | nil => rfl
  | cons b bs ih =>
    unfold seekLoop
    cases acc.findInput node b with
    | none => rfl
    | some oi =>
      cases oi with
      | none =>
        simp only
        cases posGreater acc node b (acc.len node) 0 with
        | none => rfl
        | some p => rfl
      | some i =>
        simp only
        cases acc.transition node i with
        | none => rfl
        | some t =>
          simp only
          cases acc.node t.addr with
          | none => rfl
          | some n' =>
            simp only
            exact ih n' (out + t.out) ((eofLift A).accept st b) (inp ++ [b])
              (⟨node, i + 1, out, st⟩ :: stack)

theorem seekFinish_proj (acc : NodeAccess N) (max : Bound) (incl : Bool)
    (res : Key × List (Frame N (σ × Bool)) × Option (N × Nat × (σ × Bool))) :
    seekFinish acc incl max (res.1, res.2.1.map projFrame, res.2.2.map fun (n, o, x) => (n, o, x.1)) =
      (seekFinish acc incl max res).map projS := by
  obtain ⟨i, stk, _ | ⟨n, o, x⟩⟩ := res
  · rfl
  · cases stk with
    | nil => rfl
    | cons top rest =>
      simp only [Option.map_some, List.map_cons, seekFinish, projFrame, apply_ite (Option.map projS)]
      cases acc.transition top.node (top.trans - 1) with
      | none => rfl
      | some t =>
        simp only
        cases acc.node t.addr <;> rfl

theorem streamNew_proj (acc : NodeAccess N) (A : Aut σ) (root : Nat) (min max : Bound) :
    streamNew acc A root min max = (streamNew acc (eofLift A) root min max).map projS := by
  cases hr : acc.node root with
  | none => simp [streamNew, hr]
  | some r =>
    cases hmin : min.isEmpty with
    | true => rw [streamNew_empty acc A root min max hmin r hr,
        streamNew_empty acc (eofLift A) root min max hmin r hr]; rfl
    | false =>
      rw [streamNew_seek acc A root min max hmin r hr,
        streamNew_seek acc (eofLift A) root min max hmin r hr]
      have h := seekLoop_proj acc A (Bound.key min) r 0 (eofLift A).start [] []
      rw [show seekLoop acc A (Bound.key min) r 0 A.start [] [] = _ from h]
      cases seekLoop acc (eofLift A) (Bound.key min) r 0 (eofLift A).start [] [] with
      | none => rfl
      | some res => exact seekFinish_proj acc max min.isInclusive res

theorem descend_proj (acc : NodeAccess N) (A : Aut σ) (inp : Key) (f : Frame N (σ × Bool))
    (rest : List (Frame N (σ × Bool))) (e : Bound) (t : Tr) (nn : N) :
    descend acc A inp (projFrame f) (rest.map projFrame) e t nn =
      projRes (descend acc (eofLift A) inp f rest e t nn) := by
  have hm : (eofLift A).eofMatch ((eofLift A).accept f.autState t.inp) =
      A.eofMatch (A.accept f.autState.1 t.inp) := rfl
  have hs : (projFrame f).autState = f.autState.1 := rfl
  simp only [descend, hm, hs]
  cases e.exceededBy (inp ++ [t.inp])
  · cases (acc.isFinal nn && A.eofMatch (A.accept f.autState.1 t.inp)) <;> rfl
  · rfl

theorem streamStep_proj (acc : NodeAccess N) (A : Aut σ) (root : Nat) (s' : SState N (σ × Bool)) :
    streamStep acc A root (projS s') = projRes (streamStep acc (eofLift A) root s') := by
  obtain ⟨inp, eo, stack, e⟩ := s'
  cases eo with
  | some v =>
    show streamStep acc A root ⟨inp, some v, stack.map projFrame, e⟩ = _
    rw [step_empty, step_empty, apply_ite projRes, apply_ite projRes]
    rfl
  | none =>
    cases stack with
    | nil => rfl
    | cons f rest =>
      show streamStep acc A root ⟨inp, none, projFrame f :: rest.map projFrame, e⟩ = _
      rcases step_total acc (eofLift A) f with hp | ⟨hi, hc⟩
      · rw [step_pop acc (eofLift A) root inp f rest e hp, step_pop acc A root inp (projFrame f) _ e hp,
          apply_ite projRes, apply_ite projRes]
        rfl
      · rw [step_descend acc (eofLift A) root inp f rest e hi hc,
          step_descend acc A root inp (projFrame f) _ e hi hc]
        show (match acc.transition f.node f.trans with | none => _ | some t => _) = _
        cases acc.transition f.node f.trans with
        | none => rfl
        | some t =>
          simp only
          cases acc.node t.addr with
          | none => rfl
          | some nn => exact descend_proj acc A inp f rest e t nn

def prItem : Key × Nat × (σ × Bool) → Key × Nat × σ := fun (k, v, x) => (k, v, x.1)

theorem streamCollect_proj (acc : NodeAccess N) (A : Aut σ) (root : Nat) (fuel : Nat)
    (s' : SState N (σ × Bool)) (accum' : List (Key × Nat × (σ × Bool))) :
    streamCollect acc A root fuel (projS s') (accum'.map prItem) =
      (streamCollect acc (eofLift A) root fuel s' accum').map (·.map prItem) := by
  induction fuel generalizing s' accum' with
  | zero => rfl
  | succ n ih =>
    simp only [streamCollect, streamStep_proj]
    cases streamStep acc (eofLift A) root s' with
    | panic => rfl
    | done _ => simp [projRes]
    | emit k v st s2 => exact ih s2 ((k, v, st) :: accum')
    | cont s2 => exact ih s2 accum'

theorem eofLift_run (A : Aut σ) (x : σ) (b : Bool) (w : Key) :
    (eofLift A).run (x, b) w = (A.run x w, b || !w.isEmpty) := by
  induction w generalizing x b with
  | nil => simp [Aut.run]
  | cons c w ih =>
    have h1 : (eofLift A).run (x, b) (c :: w) = (eofLift A).run (A.accept x c, true) w := rfl
    have h2 : A.run x (c :: w) = A.run (A.accept x c) w := rfl
    rw [h1, h2, ih]
    simp

theorem eofLift_accepts (A : Aut σ) (k : Key) : (eofLift A).accepts k = A.acceptsEof k := by
  unfold Aut.accepts Aut.acceptsEof
  have hs : (eofLift A).start = (A.start, false) := rfl
  rw [hs, eofLift_run]
  cases k <;> simp [eofLift, Aut.run]

theorem eofLift_run_start (A : Aut σ) (k : Key) :
    ((eofLift A).run (eofLift A).start k).1 = A.run A.start k :=
  run_hom (B := A) Prod.fst (fun _ _ => rfl) _ k

theorem eofLift_canSound (A : Aut σ)
    (hCan : ∀ x, A.canMatch x = false → ∀ w, A.isMatch (A.run x w) = false ∧ A.eofMatch (A.run x w) = false) :
    ∀ x, (eofLift A).canMatch x = false → ∀ w, (eofLift A).isMatch ((eofLift A).run x w) = false := by
  intro x hx w
  obtain ⟨x, b⟩ := x
  rw [eofLift_run]
  have := hCan x hx w
  simp only [eofLift]
  split
  · exact this.2
  · exact this.1

/-- transport of ANY stream-correctness statement about `eofLift A` (over any node access, any
list `L` of entries) to the hooked automaton `A` itself -/
theorem eof_transport {acc : NodeAccess N} {A : Aut σ} {root : Nat} {min max : Bound} {L : KV}
    (h : ∃ s0, streamNew acc (eofLift A) root min max = some s0 ∧ ∃ M, ∀ fuel, M ≤ fuel →
      streamCollect acc (eofLift A) root fuel s0 [] =
        some ((L.filter fun kv => lowerOK min kv.1 && upperOK max kv.1 && (eofLift A).accepts kv.1).map
          fun kv => (kv.1, kv.2, (eofLift A).run (eofLift A).start kv.1))) :
    ∃ s0, streamNew acc A root min max = some s0 ∧ ∃ M, ∀ fuel, M ≤ fuel →
      streamCollect acc A root fuel s0 [] =
        some ((L.filter fun kv => lowerOK min kv.1 && upperOK max kv.1 && A.acceptsEof kv.1).map
          fun kv => (kv.1, kv.2, A.run A.start kv.1)) := by
  obtain ⟨s0', hnew, M, hM⟩ := h
  refine ⟨projS s0', by rw [streamNew_proj, hnew]; rfl, M, fun fuel hf => ?_⟩
  have h := streamCollect_proj acc A root fuel s0' []
  simp only [List.map_nil] at h
  rw [h, hM fuel hf]
  simp only [Option.map_some, List.map_map, eofLift_accepts]
  congr 1
  apply List.map_congr_left
  intro kv _
  simp [prItem, eofLift_run_start]

/-- `stream_correct` without the `hEof` assumption: for an automaton with an arbitrary
`accept_eof` hook, the stream yields exactly the in-range entries accepted in the sense of
`Aut.acceptsEof`. -/
theorem stream_correct_eof {acc : NodeAccess N} {A : Aut σ} {s : Store} {den : Nat → KV}
    (hg : GoodStore s den) (hr : Represents acc s) (root : Nat)
    (hroot : root = 0 ∨ ∃ n, (root, n) ∈ s)
    (hCan : ∀ x, A.canMatch x = false → ∀ w, A.isMatch (A.run x w) = false ∧ A.eofMatch (A.run x w) = false)
    (min max : Bound) :
    ∃ s0, streamNew acc A root min max = some s0 ∧
    ∃ N, ∀ fuel, N ≤ fuel →
      streamCollect acc A root fuel s0 [] =
        some (((den root).filter fun kv =>
                lowerOK min kv.1 && upperOK max kv.1 && A.acceptsEof kv.1).map
                fun kv => (kv.1, kv.2, A.run A.start kv.1)) :=
  eof_transport (stream_correct (A := eofLift A) hg hr root hroot (fun _ => rfl)
    (eofLift_canSound A hCan) min max)

/-- without a hook the two notions of acceptance coincide (so `stream_correct_eof` then says what
`stream_correct` says) -/
theorem stream_correct_eof_conservative (A : Aut σ) (hEof : ∀ x, A.acceptEof x = none) :
    A.acceptsEof = A.accepts := by
  funext k
  unfold Aut.acceptsEof Aut.accepts Aut.eofMatch
  rw [hEof]
  cases k <;> simp [Aut.run]

/-- a concrete automaton with a non-trivial hook: counts bytes; matches at 100; the hook
sends a 2-byte key to the matching state -/
def hookDemo : Aut Nat where
  start := 0
  isMatch := fun x => x == 100
  canMatch := fun _ => true
  willAlwaysMatch := fun _ => false
  accept := fun x _ => x + 1
  acceptEof := fun x => if x == 2 then some 100 else none

example : ∀ x, hookDemo.canMatch x = false →
    ∀ w, hookDemo.isMatch (hookDemo.run x w) = false ∧ hookDemo.eofMatch (hookDemo.run x w) = false := by
  intro x hx; simp [hookDemo] at hx

example : hookDemo.acceptsEof [1, 2] = true ∧ hookDemo.accepts [1, 2] = false := by decide

end Fst

