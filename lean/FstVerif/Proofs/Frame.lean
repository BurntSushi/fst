import FstVerif.Proofs.Open
/-
The frame of an FST file, for every format version: header, node region, footer and (from
version 3 on) the masked CRC-32C of everything before it. The reference encoder writes a `frame`
(`encodeFst_frame`, Proofs/OldVerFile.lean) and the model builder's `E2E.fileOf` unfolds to
`frame 3 …` (Proofs/EndToEndFile.lean); `frame_open` is what `Fst::new` and `Fst::verify` do on one.
-/
namespace Fst

/-- `CheckSummer::masked` of a byte string, as written to / compared with the footer -/
def E2E.crcOf (body : List UInt8) : Nat := (maskedSum (crc32cSlice16 0 body)).toNat

namespace OpenProofs
open E2E

def frameBody (version ty : Nat) (nodes : List UInt8) (len root : Nat) : List UInt8 :=
  u64le version ++ u64le ty ++ nodes ++ u64le len ++ u64le root

def frame (version ty : Nat) (nodes : List UInt8) (len root : Nat) : List UInt8 :=
  let body := frameBody version ty nodes len root
  if version ≥ 3 then body ++ u32le (crcOf body) else body

theorem frameBody_length (version ty : Nat) (nodes : List UInt8) (len root : Nat) :
    (frameBody version ty nodes len root).length = nodes.length + 32 := by
  simp only [frameBody, List.length_append, u64le_length]; omega

/-- the fields, addressed as `Fst::new` addresses them: version and type from the front,
length, root address and `ck` (the checksum bytes, if any) from the back -/
theorem framed_fields (version ty len root : Nat) (nodes ck bytes : List UInt8)
    (hb : frameBody version ty nodes len root ++ ck = bytes) :
    bytes.length = nodes.length + 32 + ck.length ∧
    bytes.take 8 = u64le version ∧ (bytes.drop 8).take 8 = u64le ty ∧
    (bytes.drop (bytes.length - ck.length - 16)).take 8 = u64le len ∧
    (bytes.drop (bytes.length - ck.length - 8)).take 8 = u64le root ∧
    (bytes.drop (bytes.length - ck.length)).take ck.length = ck := by
  have hbe : bytes = u64le version ++ u64le ty ++ nodes ++ u64le len ++ u64le root ++ ck := hb.symm
  have hlenB : bytes.length = nodes.length + 32 + ck.length := by
    rw [← hb, List.length_append, frameBody_length]
  rw [hlenB, Nat.add_sub_cancel]
  have h1 := drop_take_seg [] (u64le version) (u64le ty ++ nodes ++ u64le len ++ u64le root ++ ck)
    0 8 rfl (u64le_length _)
  have h2 := drop_take_seg (u64le version) (u64le ty) (nodes ++ u64le len ++ u64le root ++ ck)
    8 8 (u64le_length _) (u64le_length _)
  have h3 := drop_take_seg (u64le version ++ u64le ty ++ nodes) (u64le len) (u64le root ++ ck)
    (nodes.length + 32 - 16) 8
    (by simp only [List.length_append, u64le_length]; omega) (u64le_length _)
  have h4 := drop_take_seg (u64le version ++ u64le ty ++ nodes ++ u64le len) (u64le root) ck
    (nodes.length + 32 - 8) 8
    (by simp only [List.length_append, u64le_length]; omega) (u64le_length _)
  have h5 := drop_take_seg (frameBody version ty nodes len root) ck [] (nodes.length + 32)
    ck.length (frameBody_length ..) rfl
  simp only [List.nil_append, List.drop_zero, ← List.append_assoc, ← hbe] at h1 h2 h3 h4
  rw [List.append_nil, hb] at h5
  exact ⟨rfl, h1, h2, h3, h4, h5⟩

theorem fstNew_framed (version ty len root : Nat) (nodes ck : List UInt8)
    (hv1 : 1 ≤ version) (hv3 : version ≤ 3)
    (hty : ty < 2^64) (hlen : len < 2^64) (hroot : root < 2^64)
    (hck : ck.length = if version ≤ 2 then 0 else 4) (h0 : root = 0 → nodes = []) :
    fstNew (Src.ofList (frameBody version ty nodes len root ++ ck)) =
      .ok ⟨version, root, ty, len, if version ≤ 2 then none else some (unpack ck)⟩ := by
  generalize hb : frameBody version ty nodes len root ++ ck = bytes
  obtain ⟨hlenB, f1, f2, f3, f4, f5⟩ := framed_fields version ty len root nodes ck bytes hb
  have hver : versionOf bytes = version := by
    rw [versionOf, f1]; exact unpack_u64le (by omega)
  have h32 : 32 ≤ bytes.length := hlenB ▸ Nat.le_add_right_of_le (Nat.le_add_left ..)
  have hnew := fstNew_eq bytes h32 (hver ▸ hv1) (hver ▸ hv3)
    (by intro h3; rw [hver] at h3; rw [hlenB, hck, if_neg (by omega)]; omega)
  -- the fields of `fstNew_eq` are those of `framed_fields`, `ck.length` being the `k` there
  simp only [hver, ← hck, f2, f3, f4, f5, unpack_u64le hty, unpack_u64le hlen,
    unpack_u64le hroot] at hnew
  rw [hnew, if_neg]
  rintro ⟨⟨hr0, hne⟩, _⟩
  rw [hlenB, h0 hr0] at hne
  exact hne (Nat.zero_add _ ▸ rfl)

theorem frame_eq (version ty : Nat) (nodes : List UInt8) (len root : Nat) :
    frame version ty nodes len root = frameBody version ty nodes len root ++
      (if version ≤ 2 then [] else u32le (crcOf (frameBody version ty nodes len root))) := by
  unfold frame
  by_cases h : version ≤ 2
  · rw [if_neg (by omega), if_pos h, List.append_nil]
  · rw [if_pos (by omega), if_neg h]

theorem le_frame_length (version ty : Nat) (nodes : List UInt8) (len root : Nat) :
    nodes.length + 32 ≤ (frame version ty nodes len root).length := by
  rw [frame_eq, List.length_append, frameBody_length]; omega

theorem frame_split (version ty : Nat) (nodes : List UInt8) (len root : Nat) :
    ∃ post, frame version ty nodes len root = u64le version ++ u64le ty ++ nodes ++ post := by
  rw [frame_eq]
  generalize (if version ≤ 2 then [] else u32le (crcOf (frameBody version ty nodes len root))) = ck
  exact ⟨u64le len ++ u64le root ++ ck, by simp only [frameBody, List.append_assoc]⟩

/-- Root address 0 must mean an empty node region: `Fst::new` checks the length of such a file. -/
theorem frame_open (version ty len root : Nat) (nodes : List UInt8)
    (hv1 : 1 ≤ version) (hv3 : version ≤ 3)
    (hty : ty < 2^64) (hlen : len < 2^64) (hroot : root < 2^64) (h0 : root = 0 → nodes = []) :
    let m : Meta := ⟨version, root, ty, len,
      if version ≤ 2 then none else some (crcOf (frameBody version ty nodes len root))⟩
    fstNew (Src.ofList (frame version ty nodes len root)) = .ok m ∧
    fstVerify m (Src.ofList (frame version ty nodes len root)) =
      (if version ≤ 2 then .err .checksumMissing else .ok ()) := by
  intro m
  have hnew : fstNew (Src.ofList (frame version ty nodes len root)) = .ok m := by
    rw [frame_eq, fstNew_framed version ty len root nodes _ hv1 hv3 hty hlen hroot
      (by split <;> simp [u32le_length]) h0]
    by_cases h : version ≤ 2
    · simp only [m, h, if_true]
    · simp only [m, h, if_false]
      rw [unpack_u32le (show crcOf _ < 2^32 from UInt32.toNat_lt _)]
  refine ⟨hnew, ?_⟩
  by_cases h : version ≤ 2
  · rw [if_pos h]
    exact C10_checksum_missing _ m hnew h
  · rw [if_neg h, verify_eq _ m hnew]
    have hmc : m.checksum = some (crcOf (frameBody version ty nodes len root)) := by
      simp only [m, h, if_false]
    rw [hmc]
    simp only
    refine if_pos ?_
    rw [frame_eq, if_neg h, List.length_append, u32le_length, Nat.add_sub_cancel,
      List.take_left' rfl]
    rfl

end OpenProofs
end Fst
