import FstVerif.Model.Frontends
import FstVerif.Proofs.Build
/-
The batch entry points `extendInsert` / `extendAdd` (Model/Frontends.lean) agree with the folds `insertAll` /
`addAll`: the same final state when every item is accepted, the same error otherwise (C06 / C15).
-/
namespace Fst

theorem extendInsert_ok (s : BState) (kvs : KV) (s' : BState) (h : insertAll s kvs = .ok s') :
    s.extendInsert kvs = (s', .ok ()) := by
  induction kvs generalizing s with
  | nil => cases h; rfl
  | cons kv rest ih =>
    obtain ⟨s1, e1, e2⟩ := insertAll_cons_ok.mp h
    simp only [BState.extendInsert, e1]
    exact ih s1 e2

theorem extendInsert_err (s : BState) (kvs : KV) (e : BErr) (h : insertAll s kvs = .error e) :
    (s.extendInsert kvs).2 = .error e := by
  induction kvs generalizing s with
  | nil => cases h
  | cons kv rest ih =>
    simp only [insertAll] at h
    simp only [BState.extendInsert]
    cases hi : s.insert kv.1 kv.2 with
    | error e' => rw [hi] at h; cases h; rfl
    | ok s1 => rw [hi] at h; exact ih s1 h

theorem extendAdd_ok (s : BState) (ks : List Key) (s' : BState) (h : addAll s ks = .ok s') :
    s.extendAdd ks = (s', .ok ()) := by
  induction ks generalizing s with
  | nil => cases h; rfl
  | cons k rest ih =>
    obtain ⟨s1, e1, e2⟩ := addAll_cons_ok.mp h
    simp only [BState.extendAdd, e1]
    exact ih s1 e2

theorem extendAdd_err (s : BState) (ks : List Key) (e : BErr) (h : addAll s ks = .error e) :
    (s.extendAdd ks).2 = .error e := by
  induction ks generalizing s with
  | nil => cases h
  | cons k rest ih =>
    simp only [addAll] at h
    simp only [BState.extendAdd]
    cases hi : s.add k with
    | error e' => rw [hi] at h; cases h; rfl
    | ok s1 => rw [hi] at h; exact ih s1 h

end Fst
