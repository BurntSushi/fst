import FstVerif.Model.Glue
import FstVerif.Proofs.Frontends
import FstVerif.Proofs.Open
import FstVerif.Proofs.Sink
/-
The glue around the modelled core (`Model/Glue.lean`), for unbounded lists and states:
`resume` (a by-reference iterator handed to `extend_iter` again and again) loses nothing but
the rejected items; `IOB.extend` (a batch call over a sink) stops at the first call that does
not return `Ok` and a failing response of the sink surfaces as `Err(Io)`; `map_data` opens the
new bytes afresh. (`lineKey` and `fileRows` are with the text lines, in Proofs/Lines.lean.)
`BCall` / `IOB.call` of Model/Glue.lean are the calls `SinkProofs.Call` / `SinkProofs.IOB.call` of
Proofs/Sink.lean under other constructor names (`call_eq_step` here, `IOB.call_eq` there).
-/
namespace Fst.Glue
open Fst
open Fst.SinkProofs (Bad Benign errOf Served Consumed)

/-- (for the `decide`d examples only) -/
local instance exceptDecEq {ε α : Type} [DecidableEq ε] [DecidableEq α] : DecidableEq (Except ε α)
  | .ok a, .ok b => if h : a = b then isTrue (by rw [h]) else isFalse (fun h' => h (by cases h'; rfl))
  | .error a, .error b => if h : a = b then isTrue (by rw [h]) else isFalse (fun h' => h (by cases h'; rfl))
  | .ok _, .error _ => isFalse (fun h => by cases h)
  | .error _, .ok _ => isFalse (fun h => by cases h)

/-! ### `BState.resume` -/

/-- one single `insert`/`add` call whose error is ignored: a rejected call leaves the state alone -/
def step (st : BState) (c : BCall) : BState :=
  match st.call c with
  | .ok st' => st'
  | .error _ => st

/-- the errors of exactly those calls that are rejected when the calls are made one by one
(ignoring errors) from `s`, in order -/
def rejections : BState → List BCall → List (Except BErr Unit)
  | _, [] => []
  | s, c :: rest =>
    match s.call c with
    | .error e => .error e :: rejections s rest
    | .ok s' => rejections s' rest

theorem step_ok {s s' : BState} {c : BCall} (h : s.call c = .ok s') : step s c = s' := by
  simp [step, h]

theorem step_error {s : BState} {c : BCall} {e : BErr} (h : s.call c = .error e) : step s c = s := by
  simp [step, h]

theorem step_ins (s : BState) (k : Key) (v : Nat) :
    step s (.ins k v) = match s.insert k v with | .ok s' => s' | .error _ => s := rfl

theorem step_add (s : BState) (k : Key) :
    step s (.add k) = match s.add k with | .ok s' => s' | .error _ => s := rfl

theorem rejections_cons (s : BState) (c : BCall) (rest : List BCall) :
    rejections s (c :: rest) =
      (match s.call c with | .error e => [.error e] | .ok _ => []) ++ rejections (step s c) rest := by
  cases h : s.call c <;> simp [rejections, step, h]

theorem rejections_append (s : BState) (a b : List BCall) :
    rejections s (a ++ b) = rejections s a ++ rejections (a.foldl step s) b := by
  fun_induction rejections s a with  -- no call left / rejected / accepted
  | case1 s => rfl
  | case2 s c rest e h ih => simp [rejections, h, step_error h, ih]
  | case3 s c rest s' h ih => simp [rejections, h, step_ok h, ih]

theorem rejections_all_error (s : BState) (calls : List BCall) :
    ∀ r ∈ rejections s calls, ∃ e, r = .error e := by
  fun_induction rejections s calls with
  | case1 s => exact List.forall_mem_nil _
  | case2 s c rest e h ih => exact List.forall_mem_cons.mpr ⟨⟨e, rfl⟩, ih⟩
  | case3 s c rest s' h ih => exact ih

theorem rejections_length_le (s : BState) (calls : List BCall) :
    (rejections s calls).length ≤ calls.length := by
  fun_induction rejections s calls with
  | case1 s => exact Nat.le_refl 0
  | case2 s c rest e h ih => exact Nat.succ_le_succ ih
  | case3 s c rest s' h ih => exact Nat.le_succ_of_le ih

theorem resume_acc (s : BState) (calls : List BCall) (acc : List (Except BErr Unit)) :
    s.resume calls acc = (calls.foldl step s, acc.reverse ++ rejections s calls ++ [.ok ()]) := by
  fun_induction BState.resume s calls acc with
  | case1 s acc => simp [rejections]
  | case2 s c rest acc e h ih => simp [rejections, h, step_error h, ih]
  | case3 s c rest acc s' h ih => simp [rejections, h, step_ok h, ih]

theorem resume_spec (s : BState) (calls : List BCall) :
    (s.resume calls []).1 = calls.foldl step s ∧
    (s.resume calls []).2 = rejections s calls ++ [.ok ()] := by
  rw [resume_acc]; simp

theorem resume_length (s : BState) (calls : List BCall) :
    (s.resume calls []).2.length = (rejections s calls).length + 1 := by
  rw [(resume_spec s calls).2]; simp

theorem resume_results_shape (s : BState) (calls : List BCall) :
    (s.resume calls []).2.getLast? = some (.ok ()) ∧
    ∀ r ∈ (s.resume calls []).2.dropLast, ∃ e, r = .error e := by
  rw [(resume_spec s calls).2]
  refine ⟨by simp, ?_⟩
  rw [List.dropLast_concat]
  exact rejections_all_error s calls

theorem resume_length_bounds (s : BState) (calls : List BCall) :
    1 ≤ (s.resume calls []).2.length ∧ (s.resume calls []).2.length ≤ calls.length + 1 := by
  rw [resume_length]; have := rejections_length_le s calls; omega

theorem resume_append (s : BState) (a b : List BCall) :
    (s.resume (a ++ b) []).1 = ((s.resume a []).1.resume b []).1 ∧
    (s.resume (a ++ b) []).2 = (s.resume a []).2.dropLast ++ ((s.resume a []).1.resume b []).2 := by
  constructor
  · simp only [resume_acc, List.foldl_append]
  · simp only [resume_acc, rejections_append, List.reverse_nil, List.nil_append]
    rw [List.dropLast_concat]; simp

/-! examples: "b"=1, "a"=2 (out of order), "b"=3 (duplicate), "c"=0 on a fresh builder: three
`extend_iter` calls — two errors, then `Ok` — and the builder holds "b", "c" -/
def demoCalls : List BCall := [.ins [98] 1, .ins [97] 2, .ins [98] 3, .ins [99] 0]

example : ((BState.new 2 2).resume demoCalls []).2 =
    [.error (.outOfOrder [98] [97]), .error (.duplicateKey [98]), .ok ()] := by decide
example : rejections (BState.new 2 2) demoCalls =
    [.error (.outOfOrder [98] [97]), .error (.duplicateKey [98])] := by decide
example : ((BState.new 2 2).resume demoCalls []).1.last = some [99] ∧
    ((BState.new 2 2).resume demoCalls []).1.len = 2 := by decide
example : (demoCalls.foldl step (BState.new 2 2)).len =
    ([BCall.ins [98] 1, .ins [99] 0].foldl step (BState.new 2 2)).len := by decide
example : ((BState.new 2 2).resume [.add [98], .add [98], .add [97], .add [99]] []).2 =
    [.error (.outOfOrder [98] [97]), .ok ()] := by decide
example : ((BState.new 2 2).resume demoCalls []).2.length = 3 := by
  rw [resume_length]; decide

/-! ### `resume` and the single `extend_iter` call (`extendInsert`/`extendAdd`) -/

theorem resume_eq_single_calls (s : BState) (calls : List BCall) :
    (s.resume calls []).1 =
      calls.foldl (fun st c => match st.call c with | .ok st' => st' | .error _ => st) s :=
  (resume_spec s calls).1

theorem resume_no_rejections (s : BState) (calls : List BCall) (h : rejections s calls = []) :
    s.resume calls [] = (calls.foldl step s, [.ok ()]) := by
  rw [resume_acc, h]; rfl

theorem resume_single_iff (s : BState) (calls : List BCall) :
    (s.resume calls []).2 = [.ok ()] ↔ rejections s calls = [] := by
  rw [(resume_spec s calls).2]; exact List.append_left_eq_self

/-- the calls of a `MapBuilder`/raw `extend_iter` over key–value pairs -/
def insCalls (kvs : KV) : List BCall := kvs.map fun kv => .ins kv.1 kv.2
/-- the calls of a `SetBuilder` `extend_iter` over keys -/
def addCalls (ks : List Key) : List BCall := ks.map .add

/-- a stop-at-first-error fold `g` over items that stand for the calls `f a` (`insertAll`, `addAll`
of Proofs/Build.lean) succeeds exactly when none of the calls is rejected -/
theorem fold_ok_iff {α : Type} (f : α → BCall) (g : BState → List α → Except BErr BState)
    (hnil : ∀ s, g s [] = .ok s)
    (hcons : ∀ s a l, g s (a :: l) =
      match s.call (f a) with | .error e => .error e | .ok s' => g s' l) (s : BState) (l : List α) :
    rejections s (l.map f) = [] ↔ g s l = .ok ((l.map f).foldl step s) := by
  induction l generalizing s with
  | nil => simp [rejections, hnil]
  | cons a rest ih =>
    rw [hcons]
    cases hc : s.call (f a) with
    | error e => simp [rejections, hc]
    | ok s1 => simpa [rejections, hc, step_ok hc] using ih s1

theorem insertAll_ok_iff (s : BState) (kvs : KV) :
    rejections s (insCalls kvs) = [] ↔ insertAll s kvs = .ok ((insCalls kvs).foldl step s) :=
  fold_ok_iff (fun kv : Key × Nat => .ins kv.1 kv.2) insertAll (fun _ => rfl) (fun _ _ _ => rfl) s kvs

theorem addAll_ok_iff (s : BState) (ks : List Key) :
    rejections s (addCalls ks) = [] ↔ addAll s ks = .ok ((addCalls ks).foldl step s) :=
  fold_ok_iff .add addAll (fun _ => rfl) (fun _ _ _ => rfl) s ks

theorem resume_ins_eq_extendInsert (s : BState) (kvs : KV)
    (h : rejections s (insCalls kvs) = []) :
    ∃ final, s.resume (insCalls kvs) [] = (final, [.ok ()]) ∧ s.extendInsert kvs = (final, .ok ()) ∧
      final = (insCalls kvs).foldl step s :=
  ⟨_, resume_no_rejections s _ h, extendInsert_ok s kvs _ ((insertAll_ok_iff s kvs).mp h), rfl⟩

theorem resume_add_eq_extendAdd (s : BState) (ks : List Key)
    (h : rejections s (addCalls ks) = []) :
    ∃ final, s.resume (addCalls ks) [] = (final, [.ok ()]) ∧ s.extendAdd ks = (final, .ok ()) ∧
      final = (addCalls ks).foldl step s :=
  ⟨_, resume_no_rejections s _ h, extendAdd_ok s ks _ ((addAll_ok_iff s ks).mp h), rfl⟩

/-- with a first rejected item the single `extend_iter` call returns the FIRST entry of
`resume`'s results -/
theorem extendInsert_head_of_resume (s : BState) (kvs : KV) :
    (s.extendInsert kvs).2 = ((s.resume (insCalls kvs) []).2.head?).getD (.ok ()) := by
  rw [(resume_spec s _).2]
  fun_induction BState.extendInsert s kvs with  -- no item left / rejected / accepted
  | case1 s => rfl
  | case2 s k v rest e hi =>
    have hc : s.call (.ins k v) = .error e := hi
    simp [insCalls, rejections, hc]
  | case3 s k v rest s1 hi ih =>
    have hc : s.call (.ins k v) = .ok s1 := hi
    simpa [insCalls, rejections, hc] using ih

/-! examples: a sorted batch has no rejections, so `resume` = one `extend_iter` call = `extendInsert` -/
example : rejections (BState.new 2 2) (insCalls [([97], 1), ([97, 98], 2), ([99], 0)]) = [] := by decide
example : ∃ final, (BState.new 2 2).resume (insCalls [([97], 1), ([97, 98], 2), ([99], 0)]) [] = (final, [.ok ()]) ∧
    (BState.new 2 2).extendInsert [([97], 1), ([97, 98], 2), ([99], 0)] = (final, .ok ()) :=
  let ⟨f, h1, h2, _⟩ := resume_ins_eq_extendInsert (BState.new 2 2) _ (by decide); ⟨f, h1, h2⟩
example : rejections (BState.new 2 2) (addCalls [[97], [97], [98]]) = [] := by decide
example : ((BState.new 2 2).extendInsert [([98], 1), ([97], 2), ([98], 3), ([99], 0)]).2 =
    .error (.outOfOrder [98] [97]) := by decide

theorem reachable_step {s : BState} (h : Reachable s) (c : BCall) : Reachable (step s c) := by
  cases hc : s.call c with
  | error e => rw [step_error hc]; exact h
  | ok s1 =>
    rw [step_ok hc]
    cases c with
    | ins k v => exact h.insert k v hc
    | add k => exact h.add k hc

theorem reachable_resume {s : BState} (h : Reachable s) (calls : List BCall) :
    Reachable (s.resume calls []).1 := by
  rw [(resume_spec s calls).1]
  exact List.foldlRecOn calls step h fun _ hb c _ => reachable_step hb c

theorem ins_rejected_iff {s : BState} (h : Reachable s) (k : Key) (v : Nat) :
    (∃ e, s.call (.ins k v) = .error e) ↔ ∃ last, s.last = some last ∧ lexLt last k = false := by
  rcases insert_cases h k v with ⟨hlt, s', hs'⟩ | ⟨last, hl, hf, he⟩
  · refine ⟨fun ⟨e, he⟩ => ?_, fun ⟨l, hl, hf⟩ => ?_⟩
    · rw [show s.call (.ins k v) = .ok s' from hs'] at he; cases he
    · rw [hlt l hl] at hf; cases hf
  · exact ⟨fun _ => ⟨last, hl, hf⟩, fun _ => he.elim (⟨_, ·⟩) (⟨_, ·⟩)⟩

theorem add_rejected_iff {s : BState} (h : Reachable s) (k : Key) :
    (∃ e, s.call (.add k) = .error e) ↔ ∃ last, s.last = some last ∧ lexLe last k = false := by
  rcases add_cases h k with ⟨hle, s', hs'⟩ | ⟨last, hl, hf, he⟩
  · refine ⟨fun ⟨e, he⟩ => ?_, fun ⟨l, hl, hf⟩ => ?_⟩
    · rw [show s.call (.add k) = .ok s' from hs'] at he; cases he
    · rw [hle l hl] at hf; cases hf
  · exact ⟨fun _ => ⟨last, hl, hf⟩, fun _ => ⟨_, he⟩⟩

/-! ### `IOB.extend` -/

/-- the results of ALL the calls made one after the other, whatever they return -/
def results : IOB → List BCall → List (Except CallErr Unit)
  | _, [] => []
  | x, c :: rest => (x.call c).2 :: results (x.call c).1 rest

/-- every one of `calls`, made one after the other from `x`, returns `Ok`, and `x'` is the
builder afterwards -/
inductive OkRun : IOB → List BCall → IOB → Prop
  | nil (x : IOB) : OkRun x [] x
  | cons {x : IOB} {c : BCall} {rest : List BCall} {x' : IOB} :
      (x.call c).2 = .ok () → OkRun (x.call c).1 rest x' → OkRun x (c :: rest) x'

theorem extend_nil (x : IOB) : x.extend [] = (x, .ok ()) := rfl

theorem extend_cons_ok {x x' : IOB} {c : BCall} (h : x.call c = (x', .ok ())) (rest : List BCall) :
    x.extend (c :: rest) = x'.extend rest := by
  simp [IOB.extend, h]

theorem extend_cons_error {x x' : IOB} {c : BCall} {e : CallErr} (h : x.call c = (x', .error e))
    (rest : List BCall) : x.extend (c :: rest) = (x', .error e) := by
  simp [IOB.extend, h]

theorem OkRun.extend {x x' : IOB} {calls : List BCall} (h : OkRun x calls x') :
    x.extend calls = (x', .ok ()) := by
  induction h with
  | nil x => rfl
  | cons h1 _ ih => rw [extend_cons_ok (Prod.ext rfl h1)]; exact ih

theorem extend_ok_state (x x' : IOB) (calls : List BCall) :
    x.extend calls = (x', .ok ()) ↔ OkRun x calls x' := by
  refine ⟨fun h => ?_, fun h => h.extend⟩
  fun_induction IOB.extend x calls with  -- no call left / the call returns `Ok` / it fails
  | case1 x => cases h; exact OkRun.nil _
  | case2 x c rest x1 hc ih => exact OkRun.cons (by rw [hc]) (by rw [hc]; exact ih h)
  | case3 x c rest x1 e hc => cases h

theorem OkRun.unique {x a b : IOB} {calls : List BCall} (h1 : OkRun x calls a) (h2 : OkRun x calls b) :
    a = b :=
  congrArg Prod.fst (h1.extend.symm.trans h2.extend)

theorem OkRun.append {x x1 x2 : IOB} {a b : List BCall} (h1 : OkRun x a x1) (h2 : OkRun x1 b x2) :
    OkRun x (a ++ b) x2 := by
  induction h1 with
  | nil x => exact h2
  | cons hc _ ih => exact OkRun.cons hc (ih h2)

theorem OkRun.results {x x' : IOB} {calls : List BCall} (h : OkRun x calls x') :
    ∀ r ∈ results x calls, r = .ok () := by
  induction h with
  | nil x => exact List.forall_mem_nil _
  | cons hc _ ih => exact List.forall_mem_cons.mpr ⟨hc, ih⟩

theorem extend_append (x : IOB) (pre post : List BCall) (h : (x.extend pre).2 = .ok ()) :
    x.extend (pre ++ post) = (x.extend pre).1.extend post := by
  fun_induction IOB.extend x pre with
  | case1 x => rfl
  | case2 x c rest x1 hc ih => rw [List.cons_append, extend_cons_ok hc]; exact ih h
  | case3 x c rest x1 e hc => cases h

theorem extend_append_error (x : IOB) (pre post : List BCall) (e : CallErr)
    (h : (x.extend pre).2 = .error e) : x.extend (pre ++ post) = x.extend pre := by
  fun_induction IOB.extend x pre with
  | case1 x => cases h
  | case2 x c rest x1 hc ih => rw [List.cons_append, extend_cons_ok hc]; exact ih h
  | case3 x c rest x1 e' hc => rw [List.cons_append, extend_cons_error hc]

/-- a failing batch: its error is that of the first failing call, and the builder (pure state,
writer, sink with its `calls` counter and remaining script) is exactly as that call left it -/
theorem extend_error_split (x : IOB) (calls : List BCall) (e : CallErr)
    (h : (x.extend calls).2 = .error e) :
    ∃ pre c post x1, calls = pre ++ c :: post ∧ OkRun x pre x1 ∧ (x1.call c).2 = .error e ∧
      (x.extend calls).1 = (x1.call c).1 := by
  fun_induction IOB.extend x calls with
  | case1 x => cases h
  | case2 x c rest x1 hc ih =>
    obtain ⟨pre, c', post, x2, hsplit, hrun, herr, hst⟩ := ih h
    exact ⟨c :: pre, c', post, x2, by rw [hsplit]; rfl,
      OkRun.cons (by rw [hc]) (by rw [hc]; exact hrun), herr, hst⟩
  | case3 x c rest x1 e' hc =>
    cases h
    exact ⟨[], c, rest, x, rfl, OkRun.nil x, by rw [hc], by rw [hc]⟩

theorem extend_of_split {x x1 : IOB} {pre : List BCall} (c : BCall) (post : List BCall) {e : CallErr}
    (hrun : OkRun x pre x1) (herr : (x1.call c).2 = .error e) :
    x.extend (pre ++ c :: post) = ((x1.call c).1, .error e) := by
  rw [extend_append x pre _ (by rw [hrun.extend]), hrun.extend]
  exact extend_cons_error (Prod.ext rfl herr) post

theorem call_eq_step (x : IOB) (c : BCall) : x.call c = x.step (x.b.call c) := by
  cases c <;> rfl

/-! examples: a sink that accepts one byte, is interrupted once, then fails with kind 7. The
second call is the first to write (it freezes the node of "aa"), hits the fault and returns
`Err(Io)`; the third and fourth are never made: 3 `write` calls, one script entry left, last
key "bb". Made as single calls the later ones would have succeeded (`results`). -/
def demoIOB : IOB := ⟨BState.new 2 2, CW.new (Sink.new [] [.take 1, .interrupted, .fail 7, .take 1])⟩
def demoBatch : List BCall := [.ins [97, 97] 1, .ins [98, 98] 2, .ins [99, 99] 3, .ins [100] 4]

example : (demoIOB.extend demoBatch).2 = .error (.io (.other 8)) := by decide +kernel
example : (demoIOB.extend demoBatch).1.cw.sink.script = [.take 1] := by decide +kernel
example : (demoIOB.extend demoBatch).1.cw.sink.calls = 3 := by decide +kernel
example : (demoIOB.extend demoBatch).1.b.last = some [98, 98] := by decide +kernel
example : results demoIOB demoBatch = [.ok (), .error (.io (.other 8)), .ok (), .ok ()] := by
  decide +kernel
example : ∃ x1, OkRun demoIOB [.ins [97, 97] 1] x1 ∧
    (x1.call (.ins [98, 98] 2)).2 = .error (.io (.other 8)) ∧
    demoIOB.extend ([.ins [97, 97] 1] ++ .ins [98, 98] 2 :: [.ins [99, 99] 3, .ins [100] 4]) =
      ((x1.call (.ins [98, 98] 2)).1, .error (.io (.other 8))) := by
  have hrun : OkRun demoIOB [.ins [97, 97] 1] (demoIOB.call (.ins [97, 97] 1)).1 :=
    OkRun.cons (by decide +kernel) (OkRun.nil _)
  have herr : ((demoIOB.call (.ins [97, 97] 1)).1.call (.ins [98, 98] 2)).2 =
      .error (.io (.other 8)) := by decide +kernel
  exact ⟨_, hrun, herr, extend_of_split _ _ hrun herr⟩
example : (demoIOB.extend [.ins [98] 1, .ins [97] 2, .ins [99] 3]).2 = .error (.fst (.outOfOrder [98] [97])) := by
  decide +kernel
example : (demoIOB.extend [.ins [98] 1, .ins [97] 2, .ins [99] 3]).1.cw.sink.calls = 0 := by decide +kernel
example : (demoIOB.extend [.ins [97] 1, .add [98]]).2 = .ok () := by decide +kernel

/-- an ordering error of the batch is the pure builder's verdict on the failing item: the
writer is untouched by that item -/
theorem call_fst_error (x : IOB) (c : BCall) (e : BErr) (h : (x.call c).2 = .error (.fst e)) :
    x.b.call c = .error e ∧ (x.call c).1 = x := by
  rw [call_eq_step] at h ⊢
  generalize x.b.call c = r at h ⊢
  revert h
  fun_cases IOB.step x r with  -- rejected / written / write failed
  | case1 e' => intro h; cases h; exact ⟨rfl, rfl⟩
  | case2 b' cw hw => intro h; cases h
  | case3 b' cw e' hw => intro h; cases h

/-! ### I/O faults in a batch -/

/-- an ordering error consumes no response, so it cannot mask a fault: `C11_fault_call` and
`C11_first_fault` lift to batches as they stand -/
theorem extend_consumed (x : IOB) (calls : List BCall) :
    Consumed x.cw.sink.script (x.extend calls).1.cw.sink.script (x.extend calls).2 := by
  fun_induction IOB.extend x calls with
  | case1 x => exact Consumed.nil _ (fun _ h => by cases h)
  | case2 x c rest x1 hc ih =>
    have h1 := SinkProofs.step_consumed x (x.b.call c)
    rw [← call_eq_step, hc] at h1
    exact h1.trans ih
  | case3 x c rest x1 e hc =>
    have h1 := SinkProofs.step_consumed x (x.b.call c)
    rwa [← call_eq_step, hc] at h1

theorem extend_no_fault (x : IOB) (calls : List BCall) (used : List Resp)
    (hu : x.cw.sink.script = used ++ (x.extend calls).1.cw.sink.script)
    (h : ∀ e, (x.extend calls).2 ≠ .error (.io e)) : Benign used :=
  (extend_consumed x calls).benign hu h

/-- the hypotheses of `C11_batch_fault` on the example: the batch consumed
`[take 1, interrupted, fail 7]`, of which `fail 7` is a failing response -/
example : ∃ e, (demoIOB.extend demoBatch).2 = .error (.io e) :=
  (extend_consumed demoIOB demoBatch).fault (used := [.take 1, .interrupted, .fail 7])
    (by decide +kernel) (bad := .fail 7) (by simp) (Or.inr ⟨7, rfl⟩)

/-! ### `map_data` -/

theorem mapData_eq (f : Src → Src) (d : Src) : mapData f d = fstNew (f d) := rfl

theorem mapData_total (f : Src → Src) (d : Src) (bs : List UInt8) (h : f d = Src.ofList bs) :
    ∀ tag, mapData f d ≠ .panic tag := by
  rw [mapData_eq, h]; exact OpenProofs.C20_open_total bs

/-- the hypothesis is needed: `Src` also contains "sources" that claim a size and have no bytes,
which no `&[u8]` does; on those the model's bounds checks fire -/
example : mapData (fun _ => ⟨40, fun _ => none⟩) (Src.ofList []) = .panic "bytes[..8]" := by decide

/-- a byte source whose `get` answers exactly below `size` (every real `&[u8]`) -/
def SrcWF (s : Src) : Prop := ∀ i, (s.get i).isSome = true ↔ i < s.size

theorem srcWF_ofList (bs : List UInt8) : SrcWF (Src.ofList bs) := by
  intro i; simp [Src.ofList]

theorem SrcWF.eq_ofList {s : Src} (h : SrcWF s) : ∃ bs, s = Src.ofList bs := by
  cases s with
  | mk size get =>
    refine ⟨(List.range size).map fun i => (get i).getD 0, ?_⟩
    simp only [Src.ofList, List.length_map, List.length_range, Src.mk.injEq, true_and]
    funext i
    by_cases hlt : i < size
    · obtain ⟨b, hb⟩ := Option.isSome_iff_exists.mp ((h i).mpr hlt)
      simp only at hb
      simp [hlt, hb]
    · have hn : get i = none := Option.not_isSome_iff_eq_none.mp fun hh => hlt ((h i).mp hh)
      simp [hlt, hn]

theorem mapData_total_wf (f : Src → Src) (d : Src) (h : SrcWF (f d)) :
    ∀ tag, mapData f d ≠ .panic tag := by
  obtain ⟨bs, hbs⟩ := h.eq_ofList
  exact mapData_total f d bs hbs

-- primed: `C20_map_data_forgets` (Props/C20.lean) is the case of a constant `f`
theorem mapData_forgets' (f : Src → Src) (d d' : Src) (h : f d = f d') : mapData f d = mapData f d' := by
  rw [mapData_eq, mapData_eq, h]

theorem mapData_id (d : Src) : mapData id d = fstNew d := rfl

/-! examples: whatever the old bytes were, the result is that of opening the new ones -/
example : mapData (fun _ => Src.ofList OpenProofs.emptyV3) (Src.ofList [1, 2, 3]) =
    .ok { version := 3, rootAddr := 0, ty := 0, len := 0, checksum := some 0 } := by decide
example : mapData (fun _ => Src.ofList [1, 2, 3]) (Src.ofList OpenProofs.emptyV3) = .err (.format 3) := by
  decide
example : ∀ tag, mapData (fun _ => Src.ofList [1, 2, 3]) (Src.ofList OpenProofs.emptyV3) ≠ .panic tag :=
  mapData_total _ _ [1, 2, 3] rfl

end Fst.Glue
