import FstVerif.Proofs.Den
/-
The key order `lexLt` (Rust's `Ord` on byte slices) is a strict total order compatible with
common prefixes; `lexLe` is its reflexive closure; `SortedKV` is `Pairwise` for it.
Every proof file takes its order facts from here.
-/
namespace Fst

/-! ### `lexLt` -/

theorem lexLt_nil_left (k : Key) : lexLt [] k = !k.isEmpty := by cases k <;> rfl

theorem lexLt_nil_right (k : Key) : lexLt k [] = false := by cases k <;> rfl

theorem lexLt_cons_iff {x y : UInt8} {a b : Key} :
    lexLt (x :: a) (y :: b) = true ↔ x < y ∨ (x = y ∧ lexLt a b = true) := by
  simp only [lexLt, Bool.or_eq_true, decide_eq_true_eq, Bool.and_eq_true, beq_iff_eq]

theorem lexLt_irrefl : ∀ k : Key, lexLt k k = false
  | [] => rfl
  | a :: as => by simp [lexLt, lexLt_irrefl as, UInt8.lt_irrefl]

theorem lexLt_trans : ∀ {a b c : Key}, lexLt a b = true → lexLt b c = true → lexLt a c = true
  | [], _, [], _, h => by rw [lexLt_nil_right] at h; cases h
  | [], _, _ :: _, _, _ => rfl
  | _ :: _, [], _, h, _ => by rw [lexLt_nil_right] at h; cases h
  | _ :: _, _ :: _, [], _, h => by rw [lexLt_nil_right] at h; cases h
  | x :: xs, y :: ys, z :: zs, h1, h2 => by
    rw [lexLt_cons_iff] at h1 h2 ⊢
    rcases h1 with h1 | ⟨rfl, h1⟩
    · rcases h2 with h2 | ⟨rfl, h2⟩
      · exact Or.inl (UInt8.lt_trans h1 h2)
      · exact Or.inl h1
    · rcases h2 with h2 | ⟨rfl, h2⟩
      · exact Or.inl h2
      · exact Or.inr ⟨rfl, lexLt_trans h1 h2⟩

theorem lexLt_asymm {a b : Key} (h : lexLt a b = true) : lexLt b a = false := by
  cases hb : lexLt b a with
  | false => rfl
  | true => have := lexLt_trans h hb; simp [lexLt_irrefl] at this

theorem lexLt_ne {a b : Key} (h : lexLt a b = true) : a ≠ b := by
  rintro rfl; simp [lexLt_irrefl] at h

theorem lexLt_trichotomy : ∀ a b : Key, lexLt a b = true ∨ a = b ∨ lexLt b a = true
  | [], [] => Or.inr (Or.inl rfl)
  | [], _ :: _ => Or.inl rfl
  | _ :: _, [] => Or.inr (Or.inr rfl)
  | x :: xs, y :: ys => by
    simp only [lexLt_cons_iff, List.cons.injEq]
    rcases Std.lt_trichotomy x y with h | h | h
    · exact Or.inl (Or.inl h)
    · subst h
      rcases lexLt_trichotomy xs ys with h | h | h
      · exact Or.inl (Or.inr ⟨rfl, h⟩)
      · exact Or.inr (Or.inl ⟨rfl, h⟩)
      · exact Or.inr (Or.inr (Or.inr ⟨rfl, h⟩))
    · exact Or.inr (Or.inr (Or.inl h))

theorem lexLt_total {a b : Key} (h1 : lexLt a b = false) (h2 : lexLt b a = false) : a = b := by
  rcases lexLt_trichotomy a b with h | h | h
  · rw [h] at h1; cases h1
  · exact h
  · rw [h] at h2; cases h2

theorem lexLt_append_left (p x y : Key) : lexLt (p ++ x) (p ++ y) = lexLt x y := by
  induction p with
  | nil => rfl
  | cons a p ih => simp [lexLt, ih]

theorem lexLt_self_append (p r : Key) : lexLt p (p ++ r) = !r.isEmpty := by
  rw [← lexLt_nil_left r, ← lexLt_append_left p [] r, List.append_nil]

/-- siblings: a smaller byte after a common prefix gives a smaller key -/
theorem lexLt_sibling (p : Key) {b b' : UInt8} (r r' : Key) (h : b < b') :
    lexLt (p ++ b :: r) (p ++ b' :: r') = true := by
  rw [lexLt_append_left, lexLt_cons_iff]; exact Or.inl h

/-! ### `lexLe` -/

theorem lexLe_refl (a : Key) : lexLe a a = true := by simp [lexLe, lexLt_irrefl]

theorem lexLe_iff {a b : Key} : lexLe a b = true ↔ lexLt a b = true ∨ a = b := by
  rw [lexLe, Bool.not_eq_true']
  constructor
  · intro h
    rcases lexLt_trichotomy a b with h' | h' | h'
    · exact Or.inl h'
    · exact Or.inr h'
    · rw [h'] at h; cases h
  · rintro (h | rfl)
    · exact lexLt_asymm h
    · exact lexLt_irrefl a

theorem lexLt_of_lt_of_le {a b c : Key} (h1 : lexLt a b = true) (h2 : lexLe b c = true) :
    lexLt a c = true := by
  rcases lexLe_iff.1 h2 with h | rfl
  · exact lexLt_trans h1 h
  · exact h1

theorem lexLe_trans {a b c : Key} (h1 : lexLe a b = true) (h2 : lexLe b c = true) :
    lexLe a c = true := by
  rcases lexLe_iff.1 h1 with h | rfl
  · exact lexLe_iff.2 (Or.inl (lexLt_of_lt_of_le h h2))
  · exact h2

theorem lexLe_cons_iff {x y : UInt8} {a b : Key} :
    lexLe (x :: a) (y :: b) = true ↔ x < y ∨ (x = y ∧ lexLe a b = true) := by
  rw [lexLe_iff, lexLe_iff, lexLt_cons_iff, List.cons.injEq]
  constructor
  · rintro ((h | ⟨e, h⟩) | ⟨e, h⟩)
    · exact Or.inl h
    · exact Or.inr ⟨e, Or.inl h⟩
    · exact Or.inr ⟨e, Or.inr h⟩
  · rintro (h | ⟨e, h | h⟩)
    · exact Or.inl (Or.inl h)
    · exact Or.inl (Or.inr ⟨e, h⟩)
    · exact Or.inr ⟨e, h⟩

/-! ### `SortedKV` -/

/-- the adjacent-pairs definition `SortedKV` is `Pairwise` -/
theorem sortedKV_iff_pairwise : ∀ {m : KV}, SortedKV m ↔ m.Pairwise fun a b => lexLt a.1 b.1 = true
  | [] => ⟨fun _ => List.Pairwise.nil, fun _ => trivial⟩
  | [_] => ⟨fun _ => List.pairwise_singleton _ _, fun _ => trivial⟩
  | a :: b :: rest => by
    rw [List.pairwise_cons, ← sortedKV_iff_pairwise (m := b :: rest)]
    constructor
    · intro h
      have ih := sortedKV_iff_pairwise.1 h.2
      refine ⟨fun c hc => ?_, h.2⟩
      rcases List.mem_cons.1 hc with rfl | hc
      · exact h.1
      · exact lexLt_trans h.1 ((List.pairwise_cons.1 ih).1 c hc)
    · exact fun h => ⟨h.1 b (List.mem_cons_self ..), h.2⟩

/-- `SortedKV` in the form the list lemmas work with (`sortedKV_iff_pairwise`) -/
def PSorted (m : KV) : Prop := m.Pairwise fun a b => lexLt a.1 b.1 = true

theorem PSorted.sortedKV {m : KV} (h : PSorted m) : SortedKV m := sortedKV_iff_pairwise.2 h

/-! ### sorted lists -/

/-- a list sorted by an asymmetric relation is determined by its members -/
theorem pairwise_ext {α : Type} {R : α → α → Prop} (hasym : ∀ a b, R a b → ¬ R b a)
    {l1 l2 : List α} (h1 : l1.Pairwise R) (h2 : l2.Pairwise R) (h : ∀ x, x ∈ l1 ↔ x ∈ l2) :
    l1 = l2 := by
  have nd : ∀ {l : List α}, l.Pairwise R → l.Nodup := fun hl =>
    hl.imp fun {a b} hab e => by subst e; exact hasym a a hab hab
  exact List.Perm.eq_of_pairwise (le := R) (fun a b _ _ hab hba => absurd hba (hasym a b hab)) h1 h2
    ((List.perm_ext_iff_of_nodup (nd h1) (nd h2)).2 h)

/-- a list without duplicates holds a given element at most once -/
theorem filter_beq_of_nodup {α : Type} [BEq α] [LawfulBEq α] {l : List α} (hn : l.Nodup) (k : α) :
    l.filter (· == k) = if k ∈ l then [k] else [] := by
  rw [List.filter_beq, hn.count]
  split <;> rfl

end Fst
