import FstVerif.Model.Lev
import FstVerif.Spec.Lev
/-
C17, character level: the capped dynamic-programming row of `DynamicLevenshtein` (`Model/Lev.lean`)
decides the edit distance `Spec.lev` (`C17_dp`). The induction runs on `RowInv`, agreement of the row with the
specification up to the cap (`row_inv`); read as an equation, the row after `k` is `cappedRow` (`dp_row`; NB the
start row `[0, 1, …, |q|]` is NOT capped, every later row is, entry 0 never). `can_match` is sound for ANY row (`C17_dp_can_opt`).
The last part but one (`accept_ne_self` …) is what the DFA construction needs of rows; the last is
`C17_limit`: a DFA that `build_with_limit` returns has at most `limit` states.
-/
namespace Fst
open Spec

/-- the row the DP is meant to hold after reading `k`: entry `i` is the distance between the
first `i` query characters and `k`, capped at `d + 1` — except entry 0, which is `k.length`
uncapped (`next[0] = state[0] + 1` in the Rust code) -/
def cappedRow (q : List Nat) (d : Nat) (k : List Nat) : List Nat :=
  (List.range (q.length + 1)).map fun i =>
    if i = 0 then k.length else min (lev (q.take i) k) (d + 1)

/-- entries `|p|+1 …` of the capped row for the query `p ++ s`, by recursion on `s` -/
def rowFrom (d : Nat) (k : List Nat) : List Nat → List Nat → List Nat
  | _, [] => []
  | p, a :: s => min (lev (p ++ [a]) k) (d + 1) :: rowFrom d k (p ++ [a]) s

theorem rowFrom_eq_map (d : Nat) (k p s : List Nat) :
    rowFrom d k p s =
      (List.range s.length).map fun j => min (lev (p ++ s.take (j + 1)) k) (d + 1) := by
  induction s generalizing p with
  | nil => rfl
  | cons a s ih =>
    rw [rowFrom, ih, List.length_cons, List.range_succ_eq_map, List.map_cons, List.map_map]
    simp only [List.take_succ_cons, List.take_zero, List.cons.injEq, true_and]
    apply List.map_congr_left
    intro j _
    simp only [Function.comp, List.append_assoc, List.cons_append, List.nil_append]

theorem cappedRow_eq (q : List Nat) (d : Nat) (k : List Nat) :
    cappedRow q d k = k.length :: rowFrom d k [] q := by
  rw [cappedRow, rowFrom_eq_map, List.range_succ_eq_map, List.map_cons, List.map_map]
  simp only [if_true, List.cons.injEq, true_and]
  apply List.map_congr_left
  intro j _
  simp [Function.comp]

theorem rowFrom_length (d : Nat) (k p s : List Nat) : (rowFrom d k p s).length = s.length := by
  induction s generalizing p with
  | nil => rfl
  | cons a s ih => simp [rowFrom, ih]

theorem rowFrom_getLast (d : Nat) (k p s : List Nat) (hs : s ≠ []) :
    (rowFrom d k p s).getLast? = some (min (lev (p ++ s) k) (d + 1)) := by
  obtain ⟨n, hn⟩ : ∃ n, s.length = n + 1 :=
    ⟨s.length - 1, by have := List.length_pos_iff.mpr hs; omega⟩
  rw [rowFrom_eq_map, List.getLast?_map, hn, List.getLast?_range, if_neg (by omega), Option.map_some,
    Nat.add_sub_cancel, ← hn, List.take_length]

/-- capping commutes with `min`, and with adding a constant up to capping again -/
theorem min_cap (D x y : Nat) : min (min x y) D = min (min x D) (min y D) := by
  rw [Nat.min_assoc x D, Nat.min_left_comm D y D, Nat.min_self, ← Nat.min_assoc]

theorem add_cap (D x n : Nat) : min (x + n) D = min (min x D + n) D := by
  rw [← Nat.add_min_add_right, Nat.min_assoc, Nat.min_eq_right (Nat.le_add_right D n)]

theorem cap_min {D x x' y y' : Nat} (hx : min x D = min x' D) (hy : min y D = min y' D) :
    min (min x y) D = min (min x' y') D := by
  rw [min_cap, hx, hy, ← min_cap]

theorem cap_add {D x x' : Nat} (n : Nat) (h : min x D = min x' D) :
    min (x + n) D = min (x' + n) D := by
  rw [add_cap, h, ← add_cap]

/-- the inner loop of `accept` on a row that agrees with the specification up to the cap -/
theorem dynRow_spec (d c : Nat) (k s p : List Nat) (prev x : Nat) (ys : List Nat)
    (hprev : min prev (d + 1) = min (lev p (k ++ [c])) (d + 1))
    (hx : min x (d + 1) = min (lev p k) (d + 1))
    (hys : ys.map (fun y => min y (d + 1)) = rowFrom d k p s) :
    dynRow d (some c) s prev (x :: ys) = rowFrom d (k ++ [c]) p s := by
  induction s generalizing p prev x ys with
  | nil => cases ys <;> simp [dynRow, rowFrom]
  | cons a s ih =>
    cases ys with
    | nil => simp [rowFrom] at hys
    | cons y ys =>
      simp only [rowFrom, List.map_cons, List.cons.injEq] at hys
      obtain ⟨hy, hys⟩ := hys
      have hv : min (min (min (prev + 1) (y + 1)) (x + (if some a = some c then 0 else 1))) (d + 1)
          = min (lev (p ++ [a]) (k ++ [c])) (d + 1) := by
        rw [lev_snoc_snoc]
        have e : (if some a = some c then 0 else 1) = (if a = c then 0 else 1) := by
          simp only [Option.some.injEq]
        rw [e]
        -- only the capped values of the three neighbours matter
        exact cap_min (cap_min (cap_add 1 hprev) (cap_add 1 hy)) (cap_add _ hx)
      simp only [dynRow, rowFrom, List.cons.injEq]
      refine ⟨hv, ?_⟩
      apply ih (p ++ [a])
      · rw [hv, Nat.min_assoc, Nat.min_self]
      · exact hy
      · exact hys

/-- the row invariant: entry 0 is `k.length`, the other entries agree with the specification
up to the cap (the start row is not capped) -/
def RowInv (l : DynLev) (k : List Nat) (st : List Nat) : Prop :=
  ∃ ys, st = k.length :: ys ∧
    ys.map (fun y => min y (l.dist + 1)) = rowFrom l.dist k [] l.query

theorem start_tail (d : Nat) (p s : List Nat) :
    (List.range' (p.length + 1) s.length).map (fun y => min y (d + 1)) = rowFrom d [] p s := by
  induction s generalizing p with
  | nil => rfl
  | cons a s ih =>
    have := ih (p ++ [a])
    simp only [List.length_append, List.length_cons, List.length_nil] at this
    simp only [List.length_cons, List.range'_succ, List.map_cons, rowFrom, lev_nil_right,
      List.length_append, List.length_nil, List.cons.injEq, true_and]
    exact this

theorem accept_inv (l : DynLev) (k st : List Nat) (c : Nat) (h : RowInv l k st) :
    l.accept st (some c) = cappedRow l.query l.dist (k ++ [c]) := by
  obtain ⟨ys, rfl, hys⟩ := h
  rw [cappedRow_eq]
  simp only [DynLev.accept, List.length_append, List.length_cons, List.length_nil,
    List.cons.injEq, true_and]
  exact dynRow_spec l.dist c k l.query [] _ _ ys (by simp) (by simp) hys

theorem cappedRow_inv (l : DynLev) (k : List Nat) : RowInv l k (cappedRow l.query l.dist k) := by
  refine ⟨rowFrom l.dist k [] l.query, cappedRow_eq _ _ _, ?_⟩
  rw [rowFrom_eq_map, List.map_map]
  apply List.map_congr_left
  intro j _
  simp only [Function.comp]
  omega

theorem run_inv (l : DynLev) (w k st : List Nat) (h : RowInv l k st) :
    RowInv l (k ++ w) (w.foldl (fun st c => l.accept st (some c)) st) := by
  induction w generalizing k st with
  | nil => simpa using h
  | cons c w ih =>
    have := ih (k ++ [c]) _ (accept_inv l k st c h ▸ cappedRow_inv l (k ++ [c]))
    simpa [List.append_assoc] using this

theorem row_inv (l : DynLev) (k : List Nat) :
    RowInv l k (k.foldl (fun st c => l.accept st (some c)) l.start) := by
  have h0 : RowInv l [] l.start :=
    ⟨List.range' 1 l.query.length, by simp [DynLev.start, List.range_eq_range', List.range'_succ],
      start_tail l.dist [] l.query⟩
  have := run_inv l k [] l.start h0
  rwa [List.nil_append] at this

theorem dp_row_nil (l : DynLev) :
    ([] : List Nat).foldl (fun st c => l.accept st (some c)) l.start
      = List.range (l.query.length + 1) := rfl

theorem dp_row_snoc (l : DynLev) (k : List Nat) (c : Nat) :
    (k ++ [c]).foldl (fun st c => l.accept st (some c)) l.start
      = cappedRow l.query l.dist (k ++ [c]) := by
  rw [List.foldl_append, List.foldl_cons, List.foldl_nil]
  exact accept_inv l k _ c (row_inv l k)

/-- Row invariant. The row after reading `k` is the capped Wagner–Fischer column for `k`;
before anything is read it is the (uncapped) start row `[0, …, |q|]`.
(The unconditional `… = cappedRow q d k` is false for `k = []` when `|q| > d + 1`:
see the `example` below.) -/
theorem dp_row (l : DynLev) (k : List Nat) :
    k.foldl (fun st c => l.accept st (some c)) l.start
      = if k = [] then List.range (l.query.length + 1) else cappedRow l.query l.dist k := by
  split
  · next h => subst h; rfl
  · next h =>
    rw [← List.dropLast_concat_getLast h]
    exact dp_row_snoc l _ _

/-- the uniform reading of `dp_row`, for every `k` including `[]`: entry `i` of the row and
`lev (q.take i) k` agree once both are capped at `d + 1`; the row has `|q| + 1` entries and
entry 0 is `k.length` -/
theorem dp_row_capped (l : DynLev) (k : List Nat) :
    (k.foldl (fun st c => l.accept st (some c)) l.start).map (fun y => min y (l.dist + 1))
      = (List.range (l.query.length + 1)).map
          fun i => min (lev (l.query.take i) k) (l.dist + 1) := by
  obtain ⟨ys, e, hys⟩ := row_inv l k
  rw [e, List.map_cons, hys, rowFrom_eq_map, List.range_succ_eq_map, List.map_cons, List.map_map]
  simp only [List.take_zero, lev_nil_left, List.cons.injEq, true_and]
  apply List.map_congr_left
  intro j _
  simp [Function.comp]

/-- the literal statement `row = cappedRow` does fail before the first character -/
example : ([] : List Nat).foldl (fun st c => (⟨[1, 2, 3], 1⟩ : DynLev).accept st (some c))
      (⟨[1, 2, 3], 1⟩ : DynLev).start = [0, 1, 2, 3]
    ∧ cappedRow [1, 2, 3] 1 [] = [0, 1, 2, 2] := by decide

example : [1, 3, 3, 7, 9].foldl (fun st c => (⟨[1, 2, 3], 1⟩ : DynLev).accept st (some c))
      (⟨[1, 2, 3], 1⟩ : DynLev).start = cappedRow [1, 2, 3] 1 [1, 3, 3, 7, 9] := by decide

/-- C17, character level: after reading `k` the row automaton matches iff the edit distance
between the query and `k` is at most the bound. For all queries, bounds and words. -/
theorem C17_dp (l : DynLev) (k : List Nat) :
    l.isMatch (k.foldl (fun st c => l.accept st (some c)) l.start) = true
      ↔ lev l.query k ≤ l.dist := by
  obtain ⟨ys, e, hys⟩ := row_inv l k
  rw [e]
  by_cases hq : l.query = []
  · rw [hq, rowFrom] at hys
    have : ys = [] := by simpa using hys
    subst this
    simp [DynLev.isMatch, hq]
  · have hl := rowFrom_getLast l.dist k [] l.query hq
    rw [← hys, List.getLast?_map, List.nil_append] at hl
    cases ys with
    | nil => simp at hl
    | cons y ys =>
      rw [DynLev.isMatch, List.getLast?_cons_cons]
      cases hg : (y :: ys).getLast? with
      | none => simp [hg] at hl
      | some n =>
        simp only [hg, Option.map_some, Option.some.injEq] at hl
        simp only [decide_eq_true_eq]
        -- `hl`: the last entry is `min (lev query k) (dist + 1)`, at most `dist` iff the distance is
        omega

example : (⟨[1, 2, 3], 1⟩ : DynLev).isMatch
    ([1, 3].foldl (fun st c => (⟨[1, 2, 3], 1⟩ : DynLev).accept st (some c))
      (⟨[1, 2, 3], 1⟩ : DynLev).start) = true ∧ lev [1, 2, 3] [1, 3] ≤ 1 := by decide
example : (⟨[1, 2, 3], 1⟩ : DynLev).isMatch
    ([3, 2, 1].foldl (fun st c => (⟨[1, 2, 3], 1⟩ : DynLev).accept st (some c))
      (⟨[1, 2, 3], 1⟩ : DynLev).start) = false ∧ ¬ lev [1, 2, 3] [3, 2, 1] ≤ 1 := by decide
example : (⟨[1, 2, 3, 4, 5], 0⟩ : DynLev).isMatch
    ([1, 2, 3, 4, 5].foldl (fun st c => (⟨[1, 2, 3, 4, 5], 0⟩ : DynLev).accept st (some c))
      (⟨[1, 2, 3, 4, 5], 0⟩ : DynLev).start) = true := by decide

def AllGt (d : Nat) (st : List Nat) : Prop := ∀ x ∈ st, d < x

theorem canMatch_false_iff (l : DynLev) (st : List Nat) :
    l.canMatch st = false ↔ AllGt l.dist st := by
  unfold DynLev.canMatch AllGt
  cases h : st.min? with
  | none =>
    rw [List.min?_eq_none_iff] at h
    subst h; simp
  | some n =>
    rw [List.min?_eq_some_iff] at h
    obtain ⟨hmem, hle⟩ := h
    simp only [decide_eq_false_iff_not, Nat.not_le]
    constructor
    · intro hn x hx
      have := hle x hx
      omega
    · intro hall
      exact hall n hmem

theorem allGt_nil (d : Nat) : AllGt d [] := fun _ h => absurd h List.not_mem_nil

theorem allGt_cons {d x : Nat} {st : List Nat} : AllGt d (x :: st) ↔ d < x ∧ AllGt d st :=
  List.forall_mem_cons

theorem dynRow_allGt (d : Nat) (chr : Option Nat) (q : List Nat) (prev : Nat) (st : List Nat)
    (hprev : d < prev) (hst : AllGt d st) : AllGt d (dynRow d chr q prev st) := by
  fun_induction dynRow d chr q prev st with
  | case1 c q prev si si1 st cost v v' ih => -- one entry
    obtain ⟨h0, hrest⟩ := allGt_cons.mp hst
    have h1 := (allGt_cons.mp hrest).1
    have hv : d < v' := by
      simp only [v', v, cost, Nat.lt_min]
      omega
    exact allGt_cons.mpr ⟨hv, ih hv hrest⟩
  | case2 => exact allGt_nil d -- row exhausted

/-- the monotonicity behind `can_match`: once every entry exceeds the bound, this stays so -/
theorem accept_allGt (l : DynLev) (st : List Nat) (chr : Option Nat) (h : AllGt l.dist st) :
    AllGt l.dist (l.accept st chr) := by
  cases st with
  | nil => exact allGt_nil _
  | cons s0 st =>
    have h0 := (allGt_cons.mp h).1
    exact allGt_cons.mpr ⟨by omega, dynRow_allGt l.dist chr l.query (s0 + 1) (s0 :: st) (by omega) h⟩

theorem isMatch_of_allGt (l : DynLev) (st : List Nat) (h : AllGt l.dist st) :
    l.isMatch st = false := by
  unfold DynLev.isMatch
  cases hg : st.getLast? with
  | none => rfl
  | some n =>
    have := h n (List.mem_of_getLast? hg)
    simp only [decide_eq_false_iff_not]
    omega

/-- `can_match` soundness, general form: from ANY row (reachable or not) on which `can_match`
is false, no continuation — over query characters, other characters, or the builder's
"any other character" `None` — reaches a matching row -/
theorem C17_dp_can_opt (l : DynLev) (st : List Nat) (h : l.canMatch st = false)
    (w : List (Option Nat)) :
    l.isMatch (w.foldl (fun st c => l.accept st c) st) = false := by
  rw [canMatch_false_iff] at h
  induction w generalizing st with
  | nil => exact isMatch_of_allGt l st h
  | cons c w ih => exact ih _ (accept_allGt l st c h)

/-- in particular for the rows reachable from the start row: once `can_match` fails after `k`,
no extension `k ++ w` is within the bound -/
theorem C17_dp_can_lev (l : DynLev) (k : List Nat)
    (h : l.canMatch (k.foldl (fun st c => l.accept st (some c)) l.start) = false)
    (w : List Nat) : l.dist < lev l.query (k ++ w) := by
  have := C17_dp_can_opt l _ h (w.map some)
  rw [List.foldl_map, ← List.foldl_append] at this
  have h2 := C17_dp l (k ++ w)
  rw [this] at h2
  simp only [Bool.false_eq_true, false_iff, Nat.not_le] at h2
  exact h2

-- the hypothesis is satisfiable on a reachable row (and fails on another)
example : (⟨[1, 2, 3], 1⟩ : DynLev).canMatch
    ([7, 7].foldl (fun st c => (⟨[1, 2, 3], 1⟩ : DynLev).accept st (some c))
      (⟨[1, 2, 3], 1⟩ : DynLev).start) = false := by decide
example : (⟨[1, 2, 3], 1⟩ : DynLev).canMatch
    ([7].foldl (fun st c => (⟨[1, 2, 3], 1⟩ : DynLev).accept st (some c))
      (⟨[1, 2, 3], 1⟩ : DynLev).start) = true := by decide

theorem min_le_min {a a' b b' : Nat} (h1 : a ≤ a') (h2 : b ≤ b') : min a b ≤ min a' b' := by
  omega

/-- a query character whose diagonal entries all exceed the bound steps like the mismatch character -/
theorem dynRow_skip_eq (d c : Nat) (q : List Nat) (prev : Nat) (st : List Nat)
    (h : ∀ idx, q[idx]? = some c → d < st.getD idx 0) :
    dynRow d none q prev st = dynRow d (some c) q prev st := by
  fun_induction dynRow d none q prev st with
  | case1 a q prev si si1 st cost v v' ih => -- one entry
    have hv : min (min (min (prev + 1) (si1 + 1)) (si + (if some a = some c then 0 else 1))) (d + 1) = v' := by
      simp only [v', v, cost, reduceCtorEq, if_false]
      by_cases e : a = c
      · have : d < si := h 0 (by rw [List.getElem?_cons_zero, e])
        simp only [e, if_true]
        -- `si` is above the bound, so both costs are capped away
        exact cap_min rfl ((Nat.min_eq_right this).trans (Nat.min_eq_right (Nat.le_succ_of_le this)).symm)
      · simp only [Option.some.injEq, e, if_false]
    simp only [dynRow, hv, List.cons.injEq, true_and]
    apply ih
    intro idx hidx
    have := h (idx + 1) (by rw [List.getElem?_cons_succ]; exact hidx)
    rwa [List.getD_cons_succ] at this
  | case2 q prev st hne => rw [dynRow.eq_2 _ _ _ _ _ hne] -- row exhausted

theorem accept_skip_eq (l : DynLev) (st : List Nat) (c : Nat)
    (h : ∀ idx, l.query[idx]? = some c → l.dist < st.getD idx 0) :
    l.accept st none = l.accept st (some c) := by
  cases st with
  | nil => rfl
  | cons s0 st => simp only [DynLev.accept, dynRow_skip_eq l.dist c l.query _ _ h]

/-- so the row reached by the mismatch transition after `k` is the capped row of `k ++ [c]` for
every `c` outside the query -/
theorem accept_none_row (l : DynLev) (k : List Nat) (c : Nat) (hc : c ∉ l.query) :
    l.accept (k.foldl (fun st c => l.accept st (some c)) l.start) none
      = cappedRow l.query l.dist (k ++ [c]) := by
  rw [accept_skip_eq l _ c fun _ h => absurd (List.mem_of_getElem? h) hc, ← dp_row_snoc l k c,
    List.foldl_append, List.foldl_cons, List.foldl_nil]

example : (7 : Nat) ∉ (⟨[1, 2, 3], 1⟩ : DynLev).query := by decide

/-! ### facts about rows that the DFA construction relies on -/

/-- entry 0 grows with every character: a row is never re-entered from itself, nor is the start row -/
theorem accept_ne_self (l : DynLev) (R : List Nat) (chr : Option Nat) (h : R ≠ []) :
    l.accept R chr ≠ R := by
  cases R with
  | nil => exact absurd rfl h
  | cons s0 st =>
    simp only [DynLev.accept, ne_eq, List.cons.injEq, not_and]
    intro e; omega

theorem accept_ne_start (l : DynLev) (R : List Nat) (chr : Option Nat) (h : R ≠ []) :
    l.accept R chr ≠ l.start := by
  cases R with
  | nil => exact absurd rfl h
  | cons s0 st =>
    simp only [DynLev.accept, DynLev.start, List.range_succ_eq_map, ne_eq, List.cons.injEq, not_and]
    intro e; omega

theorem start_canMatch (l : DynLev) : l.canMatch l.start = true :=
  Bool.of_not_eq_false fun h => by
    rw [canMatch_false_iff] at h
    have := h 0 (by simp [DynLev.start])
    omega

theorem dynRow_allGt_mono (d c : Nat) (q : List Nat) (prev prev' : Nat) (st : List Nat)
    (hp : prev ≤ prev') (h : AllGt d (dynRow d (some c) q prev st)) :
    AllGt d (dynRow d none q prev' st) := by
  fun_induction dynRow d none q prev' st generalizing prev with
  | case1 a q prev' si si1 st cost v v' ih => -- one entry
    rw [dynRow] at h
    obtain ⟨hv, hrest⟩ := allGt_cons.mp h
    have hle : min (min (min (prev + 1) (si1 + 1)) (si + (if some a = some c then 0 else 1))) (d + 1) ≤ v' := by
      simp only [v', v, cost, reduceCtorEq, if_false]
      have hc : si + (if some a = some c then 0 else 1) ≤ si + 1 := Nat.add_le_add_left (by split <;> decide) si
      exact min_le_min (min_le_min (min_le_min (Nat.succ_le_succ hp) (Nat.le_refl _)) hc) (Nat.le_refl _)
    exact allGt_cons.mpr ⟨Nat.lt_of_lt_of_le hv hle, ih _ hle hrest⟩
  | case2 => exact allGt_nil d -- row exhausted

/-- a matching character never makes the row worse than the mismatch character does -/
theorem canMatch_accept_mono (l : DynLev) (R : List Nat) (c : Nat)
    (h : l.canMatch (l.accept R (some c)) = false) : l.canMatch (l.accept R none) = false := by
  rw [canMatch_false_iff] at h ⊢
  cases R with
  | nil => exact allGt_nil _
  | cons s0 st =>
    obtain ⟨h0, hrest⟩ := allGt_cons.mp h
    exact allGt_cons.mpr ⟨h0, dynRow_allGt_mono l.dist c l.query _ _ _ (Nat.le_refl _) hrest⟩

/-! ### the state limit -/

theorem levBuild_limit (l : DynLev) (full : List (List (Nat × Nat))) (limit fuel : Nat)
    (w : LevWork) (hw : w.b.states.size ≤ limit) (states : Array DState)
    (h : levBuild l full limit fuel w = some (.ok states)) : states.size ≤ limit := by
  induction fuel generalizing w with
  | zero => simp [levBuild] at h
  | succ fuel ih =>
    unfold levBuild at h
    split at h
    · next hs =>
      simp only [Option.some.injEq, Except.ok.injEq] at h
      subst h; exact hw
    · next st rest hs =>
      simp only at h
      split at h
      · simp at h
      · next hle => exact ih _ (by omega) h

/-- `build_with_limit` respects the limit: a DFA that is returned has at most `limit` states -/
theorem C17_limit (query : List Nat) (dist : Nat) (full : List (List (Nat × Nat)))
    (limit fuel : Nat) (states : Array DState)
    (h : levNew query dist full limit fuel = some (.ok states)) : states.size ≤ limit := by
  unfold levNew at h
  exact levBuild_limit _ full limit fuel _ (by simp) states h

-- the hypothesis is satisfiable exactly at the limit, and one below it the build is refused
example : ∃ s, levNew [1] 1 [[(0, 127)]] 4 9 = some (.ok s) ∧ s.size = 4 := ⟨_, rfl, rfl⟩
example : levNew [1] 1 [[(0, 127)]] 3 9 = some (.error (.tooManyStates 3)) := rfl

end Fst
