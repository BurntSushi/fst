import FstVerif.Proofs.LevDfaStep
/-
C17 at byte level, for EVERY query: the DFA built by `levNew` (`Model/Lev.lean`, mirror of
`DfaBuilder::build_with_limit` in `src/automaton/levenshtein.rs`) accepts the UTF-8 encoding of a key
(a sequence of valid scalar values) iff the key is within the edit distance. Byte strings that are not
such encodings are not spoken of.

The worklist invariant `Inv` (`LevDfaStep`) holds at the end with an empty stack: every cached row is
`Processed`. Then `Tgt` (`LevDfaInv`) is a simulation between DFA states and DP rows (`Tgt.step`,
`Tgt.run`), related states agree on `is_match` and `can_match` (`Tgt.flags`, `levAut_tracks`), and the
end theorems follow from the character-level `C17_dp`, `C17_dp_can_lev`.
-/
namespace Fst
namespace LevDfa
open Spec

theorem levBuild_inv (l : DynLev) (hq : ∀ c ∈ l.query, ValidScalar c) (limit : Nat)
    (states : Array DState) :
    ∀ (fuel : Nat) (w : LevWork), Inv l w →
      levBuild l utf8Full limit fuel w = some (.ok states) →
      ∃ b seen, b.states = states ∧ Inv l ⟨b, [], seen⟩ := by
  intro fuel
  induction fuel with
  | zero => intro w _ h; simp [levBuild] at h
  | succ fuel ih =>
    intro w hw h
    obtain ⟨b, stack, seen⟩ := w
    unfold levBuild at h
    cases stack with
    | nil =>
      simp only [Option.some.injEq, Except.ok.injEq] at h
      exact ⟨b, seen, h, hw⟩
    | cons R rest =>
      simp only at h
      split at h
      · simp at h
      · exact ih _ (levStep_inv l hq b R rest seen hw) h

/-- the builder after `cached(start)` -/
def b0 (l : DynLev) : DfaB := ⟨#[DState.fresh (l.isMatch l.start)], [(l.start, 0)]⟩

theorem lookup_b0 (l : DynLev) (R : List Nat) (i : Nat) (h : (b0 l).cache.lookup R = some i) :
    R = l.start ∧ i = 0 := by
  by_cases e : R = l.start
  · subst e
    simp only [b0, List.lookup_cons_self, Option.some.injEq] at h
    exact ⟨rfl, h.symm⟩
  · simp [b0, lookup_cons_ne _ _ _ _ e] at h

theorem inv_b0 (l : DynLev) : Inv l ⟨b0 l, [l.start], []⟩ := by
  have hl0 : (b0 l).cache.lookup l.start = some 0 := List.lookup_cons_self
  refine ⟨⟨?_, ?_, ?_, hl0, ?_, ?_⟩, by simp, ?_, ?_⟩
  · intro m s hs
    simp only [b0] at hs
    cases m with
    | zero => simp at hs; subst hs; exact fresh_size _
    | succ m => simp at hs
  · intro R i h
    obtain ⟨rfl, rfl⟩ := lookup_b0 l R i h
    exact ⟨by simp [b0], start_canMatch l, by simp [b0, DState.fresh]⟩
  · intro R R' i h h'
    rw [(lookup_b0 l R i h).1, (lookup_b0 l R' i h').1]
  · intro R i h; exact Or.inl (lookup_b0 l R i h).2
  · intro i hi; simp at hi
  · intro R hR
    simp only [List.mem_singleton] at hR
    subst hR
    refine ⟨0, hl0, ?_⟩
    intro y
    have : stepS (b0 l).states 0 y = (DState.fresh (l.isMatch l.start)).next.getD y.toNat none := by
      simp [stepS, b0]
    rw [this, fresh_getD]
  · intro R i h hns
    exact absurd (List.mem_singleton.mpr (lookup_b0 l R i h).1) hns

/-- `levNew` starts from the empty builder, where `Inv` cannot hold: the start row is on the
stack and not yet cached. Caching it is the first thing `levStep` does, so the first step is
the same from `b0`, and the induction starts there (`inv_b0`). -/
theorem levStep_first (l : DynLev) (full : List (List (Nat × Nat))) :
    levStep l full ⟨⟨#[], []⟩, [], []⟩ l.start = levStep l full ⟨b0 l, [], []⟩ l.start := by
  rw [levStep_eq, levStep_eq]
  have h1 : (⟨#[], []⟩ : DfaB).cached l l.start = (b0 l, some (0, false)) := by
    unfold DfaB.cached
    simp [start_canMatch, b0]
  have h2 : (b0 l).cached l l.start = (b0 l, some (0, true)) :=
    cached_hit l _ _ _ (start_canMatch l) (List.lookup_cons_self)
  simp only [h1, h2]

theorem levNew_inv (query : List Nat) (dist limit fuel : Nat) (states : Array DState)
    (hq : ∀ c ∈ query, ValidScalar c)
    (hb : levNew query dist utf8Full limit fuel = some (.ok states)) :
    ∃ b seen, b.states = states ∧ Inv ⟨query, dist⟩ ⟨b, [], seen⟩ := by
  unfold levNew at hb
  simp only at hb
  cases fuel with
  | zero => simp [levBuild] at hb
  | succ fuel =>
    have e : levBuild ⟨query, dist⟩ utf8Full limit (fuel + 1)
          ⟨⟨#[], []⟩, [DynLev.start ⟨query, dist⟩], []⟩
        = levBuild ⟨query, dist⟩ utf8Full limit (fuel + 1)
          ⟨b0 ⟨query, dist⟩, [DynLev.start ⟨query, dist⟩], []⟩ := by
      unfold levBuild
      simp only [levStep_first]
    rw [e] at hb
    exact levBuild_inv ⟨query, dist⟩ hq limit states _ _ (inv_b0 _) hb

theorem WalkTo_run (b : DfaB) (i : Nat) (w : List UInt8) (o : Option Nat) (h : WalkTo b i w o) :
    w.foldl (levAut b.states).accept (some i) = o := by
  cases w with
  | nil => exact absurd h (by simp [WalkTo])
  | cons x r => exact Walk_run b.states (okI b) (stepS b.states i x) r o h

variable {l : DynLev} {b : DfaB} {seen : List Nat}

/-- `Tgt` is a simulation between DFA states and DP rows: one character keeps them related -/
theorem Tgt.step (h : Inv l ⟨b, [], seen⟩)
    {R : List Nat} {o : Option Nat} (ht : Tgt l b R o) (c : Nat) (hc : ValidScalar c) :
    Tgt l b (l.accept R (some c)) ((utf8Enc c).foldl (levAut b.states).accept o) := by
  rcases ht with ⟨hcm, rfl⟩ | ⟨t, hl, rfl⟩
  · rw [run_none]
    rw [canMatch_false_iff] at hcm
    exact Or.inl ⟨(canMatch_false_iff ..).mpr (accept_allGt l R _ hcm), rfl⟩
  · obtain ⟨o, h1, h2⟩ := h.done R t hl (by simp) c hc
    rw [WalkTo_run _ _ _ _ h1]
    exact h2

theorem Tgt.run (h : Inv l ⟨b, [], seen⟩)
    (k : List Nat) (hk : ∀ c ∈ k, ValidScalar c) :
    ∀ {R : List Nat} {o : Option Nat}, Tgt l b R o →
      Tgt l b (k.foldl (fun st c => l.accept st (some c)) R)
        ((k.flatMap utf8Enc).foldl (levAut b.states).accept o) := by
  induction k with
  | nil => intro R o ht; exact ht
  | cons c k ih =>
    intro R o ht
    simp only [List.flatMap_cons, List.foldl_append, List.foldl_cons]
    exact ih (fun c' hc' => hk c' (List.mem_cons_of_mem _ hc')) (Tgt.step h ht c (hk c (by simp)))

theorem Tgt.flags (hb : Base l b seen)
    {R : List Nat} {o : Option Nat} (ht : Tgt l b R o) :
    (levAut b.states).isMatch o = l.isMatch R ∧ (levAut b.states).canMatch o = l.canMatch R := by
  rcases ht with ⟨hcm, rfl⟩ | ⟨t, hl, rfl⟩
  · have hm : l.isMatch R = false := C17_dp_can_opt l R hcm []
    rw [hcm, hm]
    exact ⟨rfl, rfl⟩
  · obtain ⟨_, hcm, hm⟩ := hb.cacheOk R t hl
    rw [hcm]
    refine ⟨?_, rfl⟩
    show ((b.states[t]?).map (·.isMatch)).getD false = _
    rw [hm]; rfl

/-- on the encoding of `k`, the DFA computes `is_match` and `can_match` of the DP row after `k` -/
theorem levAut_tracks (query : List Nat) (dist limit fuel : Nat) (states : Array DState)
    (hq : ∀ c ∈ query, ValidScalar c)
    (hb : levNew query dist utf8Full limit fuel = some (.ok states))
    (k : List Nat) (hk : ∀ c ∈ k, ValidScalar c) :
    let l : DynLev := ⟨query, dist⟩
    let row := k.foldl (fun st c => l.accept st (some c)) l.start
    let s := (levAut states).run (levAut states).start (k.flatMap utf8Enc)
    (levAut states).isMatch s = l.isMatch row ∧ (levAut states).canMatch s = l.canMatch row := by
  obtain ⟨b, seen, rfl, hinv⟩ := levNew_inv query dist limit fuel states hq hb
  exact Tgt.flags hinv.base (Tgt.run hinv k hk (Or.inr ⟨0, hinv.base.start0, rfl⟩))

end LevDfa
open LevDfa Spec

/-- C17 at byte level: the DFA built for `query`/`dist` accepts the UTF-8 encoding `k.flatMap utf8Enc`
of a key `k` (a sequence of valid scalar values) iff `k` is within edit distance `dist` of the query;
nothing is said about byte strings that are not of this form.
For every query, distance, state limit and fuel for which the construction returns a DFA. -/
theorem C17_dfa (query : List Nat) (dist limit fuel : Nat) (states : Array DState)
    (hq : ∀ c ∈ query, ValidScalar c)
    (hb : levNew query dist Spec.utf8Full limit fuel = some (.ok states))
    (k : List Nat) (hk : ∀ c ∈ k, ValidScalar c) :
    (levAut states).accepts (k.flatMap utf8Enc) = true ↔ Spec.lev query k ≤ dist := by
  rw [← C17_dp ⟨query, dist⟩ k, ← (levAut_tracks query dist limit fuel states hq hb k hk).1]
  rfl

/-- `can_match` of the DFA is sound: if the run over the encoding of a key has died (state `None`,
`can_match = false`), no extension of the key is within the distance -/
theorem C17_dfa_can_match (query : List Nat) (dist limit fuel : Nat) (states : Array DState)
    (hq : ∀ c ∈ query, ValidScalar c)
    (hb : levNew query dist Spec.utf8Full limit fuel = some (.ok states))
    (k : List Nat) (hk : ∀ c ∈ k, ValidScalar c)
    (hdead : (levAut states).canMatch ((levAut states).run (levAut states).start
      (k.flatMap utf8Enc)) = false) (k' : List Nat) :
    ¬ Spec.lev query (k ++ k') ≤ dist := by
  rw [(levAut_tracks query dist limit fuel states hq hb k hk).2] at hdead
  exact Nat.not_le.mpr (C17_dp_can_lev ⟨query, dist⟩ k hdead k')

/-- the same inside a character: if the run has died after the encoding of `k` followed by some
prefix `p` of the encoding of `c`, then no key `k ++ c :: k'` is within the distance -/
theorem C17_dfa_can_match_prefix (query : List Nat) (dist limit fuel : Nat) (states : Array DState)
    (hq : ∀ c ∈ query, ValidScalar c)
    (hb : levNew query dist Spec.utf8Full limit fuel = some (.ok states))
    (k : List Nat) (hk : ∀ c ∈ k, ValidScalar c) (c : Nat) (hc : ValidScalar c)
    (p : List UInt8) (hp : p <+: utf8Enc c)
    (hdead : (levAut states).canMatch ((levAut states).run (levAut states).start
      (k.flatMap utf8Enc ++ p)) = false) (k' : List Nat) :
    ¬ Spec.lev query (k ++ c :: k') ≤ dist := by
  obtain ⟨b, seen, rfl, hinv⟩ := levNew_inv query dist limit fuel states hq hb
  have ht := Tgt.step hinv (Tgt.run hinv k hk (Or.inr ⟨0, hinv.base.start0, rfl⟩)) c hc
  -- the run is dead after `p`, hence after the whole of `utf8Enc c`
  obtain ⟨r, hr⟩ := hp
  unfold Aut.run at hdead
  rw [List.foldl_append] at hdead
  have hnone : ∀ o : Option Nat, (levAut b.states).canMatch o = false → o = none := by
    intro o h
    cases o with
    | none => rfl
    | some _ => exact absurd h (by simp [levAut])
  have hd : p.foldl (levAut b.states).accept
      ((k.flatMap utf8Enc).foldl (levAut b.states).accept (some 0)) = none := hnone _ hdead
  rw [← hr, List.foldl_append, hd, run_none] at ht
  rcases ht with ⟨hcm, _⟩ | ⟨t, _, ht⟩
  · have := C17_dp_can_lev ⟨query, dist⟩ (k ++ [c]) (by rw [List.foldl_append]; exact hcm) k'
    rw [List.append_assoc] at this
    exact Nat.not_le.mpr this
  · exact absurd ht (by simp)

/-! ### the hypotheses are satisfiable -/

set_option maxRecDepth 100000 in
example : ∃ states, levNew [233, 0x2603] 0 Spec.utf8Full 100 100 = some (.ok states) := ⟨_, rfl⟩
example : ∀ c ∈ [233, 0x2603], ValidScalar c := by decide
example : ∀ c ∈ [233, 0x2604, 0x1F600], ValidScalar c := by decide

-- `C17_dfa_can_match`: a run that has died (query "é☃", distance 0, key "a")
set_option maxRecDepth 100000 in
example : ∃ states, levNew [233, 0x2603] 0 Spec.utf8Full 100 100 = some (.ok states) ∧
    (levAut states).canMatch ((levAut states).run (levAut states).start ([97].flatMap utf8Enc)) = false :=
  ⟨_, rfl, rfl⟩

-- `C17_dfa_can_match_prefix`: after "é", alive on `E2 98`, which "☄" shares with "☃"; dead after the last byte `84`
set_option maxRecDepth 100000 in
example : ∃ states, levNew [233, 0x2603] 0 Spec.utf8Full 100 100 = some (.ok states) ∧
    [0xE2, 0x98] <+: utf8Enc 0x2604 ∧
    (levAut states).canMatch ((levAut states).run (levAut states).start
      ([233].flatMap utf8Enc ++ [0xE2, 0x98])) = true ∧
    (levAut states).canMatch ((levAut states).run (levAut states).start
      ([233].flatMap utf8Enc ++ [0xE2, 0x98, 0x84])) = false :=
  ⟨_, rfl, by decide, rfl, rfl⟩

/-- characters that share a lead byte with a query character: `Levenshtein::new("é", 1)` accepts "ê" and
"ñ", whatever the state limit — read off `C17_dfa` without running the construction -/
example (limit fuel : Nat) (states : Array DState)
    (hb : levNew [0xE9] 1 Spec.utf8Full limit fuel = some (.ok states)) :
    (levAut states).accepts ([0xEA].flatMap utf8Enc) = true ∧
    (levAut states).accepts ([0xF1].flatMap utf8Enc) = true ∧
    (levAut states).accepts ([0xEA, 0xF1].flatMap utf8Enc) = false := by
  refine ⟨(C17_dfa _ _ _ _ _ (by decide) hb _ (by decide)).mpr (by decide),
    (C17_dfa _ _ _ _ _ (by decide) hb _ (by decide)).mpr (by decide), ?_⟩
  have := C17_dfa _ _ _ _ _ (by decide) hb [0xEA, 0xF1] (by decide)
  cases h : (levAut states).accepts ([0xEA, 0xF1].flatMap utf8Enc) with
  | false => rfl
  | true => exact absurd (this.mp h) (by decide)

end Fst
