import FstVerif.Proofs.LevDfaSeq
import FstVerif.Proofs.Lev
/-
Vocabulary of the invariant of the DFA construction (`levBuild`), and the effect of `cached` on it.
`Tgt l b R o`: the DFA state `o` stands for the DP row `R` — the simulation relation of the whole proof.
`Processed`/`Blank` of other row states survive a step that is an `Ext` (`LevDfaSeq`).
-/
namespace Fst
namespace LevDfa
open Spec

/-- `o` is the DFA state standing for the row `R`: its cached index, or `none` when the row cannot match -/
def Tgt (l : DynLev) (b : DfaB) (R : List Nat) (o : Option Nat) : Prop :=
  (l.canMatch R = false ∧ o = none) ∨ ∃ t, b.cache.lookup R = some t ∧ o = some t

/-- reading the bytes `w` from state `i` passes through intermediate states only and ends in `o` -/
def WalkTo (b : DfaB) (i : Nat) (w : List UInt8) (o : Option Nat) : Prop :=
  match w with
  | [] => False
  | x :: r => Walk b.states (okI b) (stepS b.states i x) r o

/-- all transitions of row state `i` are in place -/
def Processed (l : DynLev) (b : DfaB) (i : Nat) (R : List Nat) : Prop :=
  ∀ c, ValidScalar c → ∃ o, WalkTo b i (utf8Enc c) o ∧ Tgt l b (l.accept R (some c)) o

def Blank (b : DfaB) (i : Nat) : Prop := ∀ y, stepS b.states i y = none

theorem Ext.refl (b : DfaB) (i : Nat) : Ext b b i :=
  ⟨Nat.le_refl _, fun _ _ _ => rfl, fun _ _ => rfl, fun _ _ h => h, fun _ _ h => Or.inl h⟩

section
variable {b b' : DfaB} {i : Nat} (h : Ext b b' i)
include h

theorem Ext.presOk {m : Nat} (hm : okI b m) : okI b' m := by
  refine ⟨Nat.lt_of_lt_of_le hm.1 h.size, ?_⟩
  intro ⟨R, hR⟩
  rcases h.cacheNew R m hR with h' | h'
  · exact hm.2 ⟨R, h'⟩
  · exact absurd hm.1 (by omega)

theorem Ext.walkTo (hi : ¬ okI b i) (i' : Nat)
    (hst : ∀ y, stepS b'.states i' y = stepS b.states i' y) (w : List UInt8) (o : Option Nat)
    (hw : WalkTo b i' w o) : WalkTo b' i' w o := by
  cases w with
  | nil => exact hw
  | cons x r =>
    simp only [WalkTo] at *
    rw [hst]
    exact Walk_frame _ _ _ _ (fun m hm => ⟨h.presOk hm, h.step m hm.1 (fun e => hi (e ▸ hm))⟩) _ _ _ hw

theorem Ext.tgt (l : DynLev) (R : List Nat) (o : Option Nat)
    (ht : Tgt l b R o) : Tgt l b' R o := by
  rcases ht with ht | ⟨t, h1, h2⟩
  · exact Or.inl ht
  · exact Or.inr ⟨t, h.cacheMono R t h1, h2⟩

theorem Ext.processed (hi : ¬ okI b i) (l : DynLev)
    (i' : Nat) (hi' : i' < b.states.size) (hne : i' ≠ i) (R : List Nat)
    (hp : Processed l b i' R) : Processed l b' i' R := by
  intro c hc
  obtain ⟨o, h1, h2⟩ := hp c hc
  exact ⟨o, h.walkTo hi i' (h.step i' hi' hne) _ _ h1, h.tgt l _ _ h2⟩

theorem Ext.blank (i' : Nat) (hi' : i' < b.states.size)
    (hne : i' ≠ i) (hb : Blank b i') : Blank b' i' := by
  intro y
  rw [h.step i' hi' hne]
  exact hb y

end

/-- the part of the worklist invariant that speaks of the cache alone: which rows have a state, and which state -/
structure Base (l : DynLev) (b : DfaB) (seen : List Nat) : Prop where
  allSz : AllSz b
  cacheOk : ∀ R i, b.cache.lookup R = some i →
    i < b.states.size ∧ l.canMatch R = true ∧ (b.states[i]?).map (·.isMatch) = some (l.isMatch R)
  cacheInj : ∀ R R' i, b.cache.lookup R = some i → b.cache.lookup R' = some i → R = R'
  start0 : b.cache.lookup l.start = some 0
  seenOk : ∀ R i, b.cache.lookup R = some i → i = 0 ∨ i ∈ seen
  seenLt : ∀ i ∈ seen, i < b.states.size

/-- `Base` and the stack in the middle (M) of a step, while the row `R` (state `i`, popped from the stack) is being
processed: every other cached row is blank and on the stack, or `Processed` -/
structure MBase (l : DynLev) (b : DfaB) (stack : List (List Nat)) (seen : List Nat)
    (R : List Nat) (i : Nat) : Prop where
  base : Base l b seen
  nodup : stack.Nodup
  notin : R ∉ stack
  cur : b.cache.lookup R = some i
  stk : ∀ R' ∈ stack, ∃ i', b.cache.lookup R' = some i' ∧ Blank b i'
  done : ∀ R' i', b.cache.lookup R' = some i' → R' ∉ stack → R' ≠ R → Processed l b i' R'

theorem MBase.isRow {l b stack seen R i} (h : MBase l b stack seen R i) : ¬ okI b i :=
  fun hk => hk.2 ⟨R, h.cur⟩

theorem MBase.ext {l b stack seen R i} (h : MBase l b stack seen R i) {b' : DfaB}
    (fr : SeqFrame b b' i) : MBase l b' stack seen R i := by
  have he := fr.toExt
  have hc := fr.cache
  have hne : ∀ R' i', b.cache.lookup R' = some i' → R' ≠ R → i' ≠ i := by
    intro R' i' h1 h2 e
    subst e
    exact h2 (h.base.cacheInj R' R i' h1 h.cur)
  refine ⟨⟨fr.allSz, ?_, ?_, ?_, ?_, ?_⟩, h.nodup, h.notin, by rw [hc]; exact h.cur, ?_, ?_⟩
  · intro R' i' hl
    rw [hc] at hl
    obtain ⟨h1, h2, h3⟩ := h.base.cacheOk R' i' hl
    exact ⟨Nat.lt_of_lt_of_le h1 he.size, h2, by rw [he.isM i' h1]; exact h3⟩
  · rw [hc]; exact h.base.cacheInj
  · rw [hc]; exact h.base.start0
  · rw [hc]; exact h.base.seenOk
  · intro j hj; exact Nat.lt_of_lt_of_le (h.base.seenLt j hj) he.size
  · intro R' hR'
    obtain ⟨i', h1, h2⟩ := h.stk R' hR'
    refine ⟨i', by rw [hc]; exact h1, ?_⟩
    exact he.blank i' (h.base.cacheOk R' i' h1).1
      (hne R' i' h1 (fun e => h.notin (e ▸ hR'))) h2
  · intro R' i' hl hns hneR
    rw [hc] at hl
    exact he.processed h.isRow l i' (h.base.cacheOk R' i' hl).1 (hne R' i' hl hneR) R'
      (h.done R' i' hl hns hneR)

theorem cached_none (l : DynLev) (b b1 : DfaB) (R' : List Nat)
    (h : b.cached l R' = (b1, none)) : b1 = b ∧ l.canMatch R' = false := by
  unfold DfaB.cached at h
  split at h
  · next hc =>
    simp only [Prod.mk.injEq, and_true] at h
    exact ⟨h.symm, by simpa using hc⟩
  · split at h <;> simp at h

theorem lookup_cons_ne (R' R : List Nat) (j : Nat) (cache : List (List Nat × Nat)) (h : R ≠ R') :
    ((R', j) :: cache).lookup R = cache.lookup R := by
  have : (R == R') = false := by simpa using h
  simp [List.lookup_cons, this]

theorem cached_cases (l : DynLev) (b b1 : DfaB) (R' : List Nat) (j : Nat) (fl : Bool)
    (h : b.cached l R' = (b1, some (j, fl))) :
    l.canMatch R' = true ∧
    ((b1 = b ∧ b.cache.lookup R' = some j) ∨
     (b.cache.lookup R' = none ∧ j = b.states.size ∧
      b1 = { states := b.states.push (DState.fresh (l.isMatch R')), cache := (R', j) :: b.cache })) := by
  unfold DfaB.cached at h
  split at h
  · simp at h
  · next hc =>
    refine ⟨by simpa using hc, ?_⟩
    split at h
    · next si hl =>
      simp only [Prod.mk.injEq, Option.some.injEq] at h
      obtain ⟨rfl, rfl, -⟩ := h
      exact Or.inl ⟨rfl, hl⟩
    · next hl =>
      simp only [Prod.mk.injEq, Option.some.injEq] at h
      obtain ⟨rfl, rfl, -⟩ := h
      exact Or.inr ⟨hl, rfl, rfl⟩

/-- `cached` on a matchable row other than the current and the start row: a known row
changes nothing (its state is already in `seen`), a new one gets the next state number and
goes on the stack. No old state's table changes either way, which `Ext` says with an index
that no old state has. -/
theorem cached_some {l : DynLev} {b : DfaB} {stack : List (List Nat)} {seen : List Nat}
    {R : List Nat} {i : Nat} (h : MBase l b stack seen R i) (R' : List Nat) (b1 : DfaB) (j : Nat)
    (fl : Bool) (hc : b.cached l R' = (b1, some (j, fl))) (hneR : R' ≠ R) (hneS : R' ≠ l.start) :
    ∃ stack' seen', (∀ b2 : DfaB, (if seen.contains j then (b2, stack, seen)
        else (b2, R' :: stack, j :: seen)) = (b2, stack', seen')) ∧
      MBase l b1 stack' seen' R i ∧ Ext b b1 b.states.size ∧ b1.cache.lookup R' = some j := by
  obtain ⟨hcm, ⟨rfl, hl⟩ | ⟨hl, rfl, rfl⟩⟩ := cached_cases l b b1 R' j fl hc
  · -- already cached: its state is in `seen`
    have hj0 : j ≠ 0 := by
      intro e; subst e
      exact hneS (h.base.cacheInj R' l.start 0 hl h.base.start0)
    have hseen : j ∈ seen := by
      rcases h.base.seenOk R' j hl with e | e
      · exact absurd e hj0
      · exact e
    exact ⟨stack, seen, fun _ => by simp [hseen], h, Ext.refl _ _, hl⟩
  · -- a new row state
    have hns : ¬ b.states.size ∈ seen := fun hm => Nat.lt_irrefl _ (h.base.seenLt _ hm)
    have hlk : ∀ R'' i'', ((R', b.states.size) :: b.cache).lookup R'' = some i'' →
        (R'' = R' ∧ i'' = b.states.size) ∨ (R'' ≠ R' ∧ b.cache.lookup R'' = some i'') := by
      intro R'' i'' hl''
      by_cases e : R'' = R'
      · subst e
        rw [List.lookup_cons_self] at hl''
        exact Or.inl ⟨rfl, by simpa using hl''.symm⟩
      · rw [lookup_cons_ne _ _ _ _ e] at hl''
        exact Or.inr ⟨e, hl''⟩
    have hext : Ext b (DfaB.mk (b.states.push (DState.fresh (l.isMatch R')))
        ((R', b.states.size) :: b.cache)) b.states.size := by
      refine ⟨by simp, ?_, ?_, ?_, ?_⟩
      · intro m hm _
        simp only [Array.getElem?_push, if_neg (Nat.ne_of_lt hm)]
      · intro m hm
        simp only [Array.getElem?_push, if_neg (Nat.ne_of_lt hm)]
      · intro R'' j'' hl''
        have : R'' ≠ R' := by intro e; subst e; rw [hl] at hl''; simp at hl''
        simp only [lookup_cons_ne _ _ _ _ this]
        exact hl''
      · intro R'' j'' hl''
        rcases hlk R'' j'' hl'' with ⟨_, e⟩ | ⟨_, e⟩
        · exact Or.inr (Nat.le_of_eq e.symm)
        · exact Or.inl e
    have hnok : ¬ okI b b.states.size := fun hk => Nat.lt_irrefl _ hk.1
    have hRne : R ≠ R' := fun e => hneR e.symm
    refine ⟨R' :: stack, b.states.size :: seen, fun _ => by simp [hns],
      ⟨⟨?_, ?_, ?_, ?_, ?_, ?_⟩, ?_, ?_, ?_, ?_, ?_⟩, hext, List.lookup_cons_self⟩
    · exact h.base.allSz.push (fresh_size _) _
    · intro R'' i'' hl''
      rcases hlk R'' i'' hl'' with ⟨rfl, rfl⟩ | ⟨_, e⟩
      · refine ⟨by simp, hcm, ?_⟩
        simp [DState.fresh]
      · obtain ⟨h1, h2, h3⟩ := h.base.cacheOk R'' i'' e
        refine ⟨by simp only [Array.size_push]; omega, h2, ?_⟩
        simp only [Array.getElem?_push, if_neg (Nat.ne_of_lt h1)]
        exact h3
    · intro R1 R2 i1 h1 h2
      rcases hlk R1 i1 h1 with ⟨rfl, rfl⟩ | ⟨_, e1⟩ <;> rcases hlk R2 _ h2 with ⟨rfl, e2'⟩ | ⟨_, e2⟩
      · rfl
      · exact absurd (h.base.cacheOk R2 _ e2).1 (Nat.lt_irrefl _)
      · subst e2'; exact absurd (h.base.cacheOk R1 _ e1).1 (Nat.lt_irrefl _)
      · exact h.base.cacheInj R1 R2 i1 e1 e2
    · simp only [lookup_cons_ne _ _ _ _ (fun e => hneS e.symm)]
      exact h.base.start0
    · intro R'' i'' hl''
      rcases hlk R'' i'' hl'' with ⟨rfl, rfl⟩ | ⟨_, e⟩
      · exact Or.inr List.mem_cons_self
      · rcases h.base.seenOk R'' i'' e with e | e
        · exact Or.inl e
        · exact Or.inr (List.mem_cons_of_mem _ e)
    · intro j hj
      simp only [Array.size_push]
      rw [List.mem_cons] at hj
      rcases hj with rfl | hj
      · omega
      · have := h.base.seenLt j hj; omega
    · rw [List.nodup_cons]
      refine ⟨?_, h.nodup⟩
      intro hm
      obtain ⟨i', h1, _⟩ := h.stk R' hm
      rw [hl] at h1; simp at h1
    · intro hm
      rw [List.mem_cons] at hm
      rcases hm with e | hm
      · exact hRne e
      · exact h.notin hm
    · simp only [lookup_cons_ne _ _ _ _ hRne]
      exact h.cur
    · intro R'' hm
      rw [List.mem_cons] at hm
      rcases hm with rfl | hm
      · refine ⟨b.states.size, List.lookup_cons_self, ?_⟩
        intro y
        rw [stepS_push_new, fresh_getD]
      · obtain ⟨i', h1, h2⟩ := h.stk R'' hm
        refine ⟨i', hext.cacheMono _ _ h1, ?_⟩
        have hlt := (h.base.cacheOk R'' i' h1).1
        exact hext.blank i' hlt (Nat.ne_of_lt hlt) h2
    · intro R'' i'' hl'' hns' hne'
      rcases hlk R'' i'' hl'' with ⟨rfl, rfl⟩ | ⟨_, e⟩
      · exact absurd List.mem_cons_self hns'
      · have hlt := (h.base.cacheOk R'' i'' e).1
        exact hext.processed hnok l i'' hlt (Nat.ne_of_lt hlt) R''
          (h.done R'' i'' e (fun hm => hns' (List.mem_cons_of_mem _ hm)) hne')

end LevDfa
end Fst
