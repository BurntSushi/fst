import FstVerif.Model.Lev
import FstVerif.Proofs.LevDfaWords
/-
`DfaB.addRange` / `DfaB.addSeq` / `DfaB.addSeqs` (`add_utf8_range`, `add_utf8_sequences`): insertion of a
range sequence into the byte trie hanging off a state, read through `stepS` (one transition) and `Walk`
(a walk over a byte string through allowed intermediate states). `Ext` / `SeqFrame`: what such a step leaves
alone; `addSeq_spec`: frame, transitions of the source state, the new path; `addSeq_walk_other`:
overwriting is copy-on-write for the byte strings that diverge from the inserted one; `addSeqs_false_walk`:
pairwise lead-disjoint sequences laid without overwriting from a blank state.
-/
namespace Fst
namespace LevDfa
open Spec

/-- one transition of the table DFA (`levAut.accept` on `some i`) -/
def stepS (states : Array DState) (i : Nat) (x : UInt8) : Option Nat :=
  (states[i]?).bind fun st => st.next.getD x.toNat none

theorem stepS_congr {s s' : Array DState} {m : Nat} (h : s'[m]? = s[m]?) (y : UInt8) :
    stepS s' m y = stepS s m y := by
  simp only [stepS, h]

theorem levAut_accept_some (states : Array DState) (i : Nat) (x : UInt8) :
    (levAut states).accept (some i) x = stepS states i x := rfl

theorem levAut_accept_none (states : Array DState) (x : UInt8) :
    (levAut states).accept none x = none := rfl

def rangeFold (ow : Bool) (to lo : Nat) (nx : Array (Option Nat)) (n : Nat) : Array (Option Nat) :=
  (List.range n).foldl (fun (nx : Array (Option Nat)) k =>
      let i := lo + k
      if ow || (nx.getD i none).isNone then nx.setIfInBounds i (some to) else nx) nx

theorem rangeFold_succ (ow : Bool) (to lo : Nat) (nx : Array (Option Nat)) (n : Nat) :
    rangeFold ow to lo nx (n + 1) =
      (if ow || ((rangeFold ow to lo nx n).getD (lo + n) none).isNone
       then (rangeFold ow to lo nx n).setIfInBounds (lo + n) (some to)
       else rangeFold ow to lo nx n) := by
  unfold rangeFold
  rw [List.range_succ, List.foldl_append]
  rfl

theorem rangeFold_size (ow : Bool) (to lo : Nat) (nx : Array (Option Nat)) (n : Nat) :
    (rangeFold ow to lo nx n).size = nx.size := by
  induction n with
  | zero => rfl
  | succ n ih =>
    rw [rangeFold_succ]
    split <;> simp [ih]

theorem getD_setIfInBounds (a : Array (Option Nat)) (i j : Nat) (v : Option Nat) (hi : i < a.size) :
    (a.setIfInBounds i v).getD j none = if j = i then v else a.getD j none := by
  simp only [Array.getD_eq_getD_getElem?, Array.getElem?_setIfInBounds, hi, if_true]
  by_cases h : j = i
  · rw [if_pos h.symm, if_pos h]; rfl
  · rw [if_neg (Ne.symm h), if_neg h]

theorem rangeFold_getD (ow : Bool) (to lo : Nat) (nx : Array (Option Nat)) (n : Nat)
    (h : n = 0 ∨ lo + n ≤ nx.size) (j : Nat) :
    (rangeFold ow to lo nx n).getD j none =
      if lo ≤ j ∧ j < lo + n ∧ (ow = true ∨ nx.getD j none = none) then some to
      else nx.getD j none := by
  induction n with
  | zero => rw [if_neg (by omega)]; rfl
  | succ n ih =>
    have ih := ih (Or.inr (by omega))
    have hlt : lo + n < (rangeFold ow to lo nx n).size := by rw [rangeFold_size]; omega
    rw [rangeFold_succ]
    by_cases hj : j = lo + n
    · subst hj
      have hn : (rangeFold ow to lo nx n).getD (lo + n) none = nx.getD (lo + n) none := by
        rw [ih]; exact if_neg (by omega)
      rw [hn]
      by_cases hc : ow = true ∨ nx.getD (lo + n) none = none
      · rw [if_pos (by simpa using hc), getD_setIfInBounds _ _ _ _ hlt, if_pos rfl,
          if_pos ⟨by omega, by omega, hc⟩]
      · rw [if_neg (by simpa using hc), hn, if_neg (fun h => hc h.2.2)]
    · have e : ∀ c : Prop, [Decidable c] → (if c then (rangeFold ow to lo nx n).setIfInBounds (lo + n) (some to)
          else rangeFold ow to lo nx n).getD j none = (rangeFold ow to lo nx n).getD j none := by
        intro c _
        split
        · rw [getD_setIfInBounds _ _ _ _ hlt, if_neg hj]
        · rfl
      have hlt' : j < lo + (n + 1) ↔ j < lo + n := by omega
      rw [e, ih]
      simp only [hlt']

def AllSz (b : DfaB) : Prop := ∀ (m : Nat) (s : DState), b.states[m]? = some s → s.next.size = 256

section
variable (b : DfaB) (ow : Bool) (f to lo hi : Nat)

theorem addRange_cache :
    (b.addRange ow f to lo hi).cache = b.cache := by
  unfold DfaB.addRange
  split <;> rfl

theorem addRange_size :
    (b.addRange ow f to lo hi).states.size = b.states.size := by
  unfold DfaB.addRange
  split
  · rfl
  · simp

theorem addRange_other (m : Nat) (hm : m ≠ f) :
    (b.addRange ow f to lo hi).states[m]? = b.states[m]? := by
  unfold DfaB.addRange
  split
  · rfl
  · simp [Ne.symm hm]

theorem addRange_self :
    (b.addRange ow f to lo hi).states[f]? = (b.states[f]?).map fun s =>
      ({ next := rangeFold ow to lo s.next (hi + 1 - lo), isMatch := s.isMatch } : DState) := by
  unfold DfaB.addRange
  cases hs : b.states[f]? with
  | none => simp only [hs, Option.map_none]
  | some s =>
    have hlt : f < b.states.size := (Array.getElem?_eq_some_iff.mp hs).1
    simp only [Array.getElem?_setIfInBounds, hlt, if_true, Option.map_some]
    rfl

theorem addRange_isMatch (m : Nat) :
    ((b.addRange ow f to lo hi).states[m]?).map (·.isMatch) = (b.states[m]?).map (·.isMatch) := by
  by_cases hm : m = f
  · subst hm
    rw [addRange_self]
    cases b.states[m]? <;> rfl
  · rw [addRange_other b ow f to lo hi m hm]

theorem addRange_allSz (h : AllSz b) :
    AllSz (b.addRange ow f to lo hi) := by
  intro m s hs
  by_cases hm : m = f
  · subst hm
    rw [addRange_self] at hs
    cases hs0 : b.states[m]? with
    | none => rw [hs0] at hs; exact absurd hs (by simp)
    | some s0 =>
      rw [hs0, Option.map_some, Option.some.injEq] at hs
      subst hs
      show (rangeFold ow to lo s0.next (hi + 1 - lo)).size = 256
      rw [rangeFold_size]
      exact h m s0 hs0
  · rw [addRange_other b ow f to lo hi m hm] at hs
    exact h m s hs

theorem addRange_step (hsz : AllSz b)
    (hf : f < b.states.size) (hhi : hi < 256) (x : UInt8) :
    stepS (b.addRange ow f to lo hi).states f x =
      if lo ≤ x.toNat ∧ x.toNat ≤ hi ∧ (ow = true ∨ stepS b.states f x = none) then some to
      else stepS b.states f x := by
  have hs : b.states[f]? = some b.states[f] := Array.getElem?_eq_getElem hf
  have h256 := hsz f _ hs
  simp only [stepS, addRange_self, hs, Option.map_some, Option.bind_some]
  rw [rangeFold_getD _ _ _ _ _ (by omega)]
  have : ∀ c, (lo ≤ x.toNat ∧ x.toNat < lo + (hi + 1 - lo) ∧ c) ↔ (lo ≤ x.toNat ∧ x.toNat ≤ hi ∧ c) :=
    fun c => and_congr_right fun a => and_congr_left' (by omega)
  simp only [this]

end

/-- continue a walk over `w` from the state `cur` just arrived at: every state that is left again
must be an allowed intermediate state; a walk may die (`none`) only with result `none` -/
def Walk (states : Array DState) (ok : Nat → Prop) : Option Nat → List UInt8 → Option Nat → Prop
  | cur, [], o => cur = o
  | cur, y :: r, o =>
    (cur = none ∧ o = none) ∨ ∃ m, cur = some m ∧ ok m ∧ Walk states ok (stepS states m y) r o

theorem Walk_none (states : Array DState) (ok : Nat → Prop) (r : List UInt8) :
    Walk states ok none r none := by
  cases r with
  | nil => rfl
  | cons y r => exact Or.inl ⟨rfl, rfl⟩

theorem run_none (states : Array DState) (r : List UInt8) :
    r.foldl (levAut states).accept none = none := by
  induction r with
  | nil => rfl
  | cons y r ih => exact ih

theorem Walk_run (states : Array DState) (ok : Nat → Prop) (cur : Option Nat) (r : List UInt8)
    (o : Option Nat) (h : Walk states ok cur r o) : r.foldl (levAut states).accept cur = o := by
  induction r generalizing cur with
  | nil => exact h
  | cons y r ih =>
    rcases h with ⟨rfl, rfl⟩ | ⟨m, rfl, _, h⟩
    · exact run_none states _
    · exact ih _ h

theorem Walk_frame (s s' : Array DState) (ok ok' : Nat → Prop)
    (hf : ∀ m, ok m → ok' m ∧ ∀ y, stepS s' m y = stepS s m y)
    (cur : Option Nat) (r : List UInt8) (o : Option Nat) (h : Walk s ok cur r o) :
    Walk s' ok' cur r o := by
  induction r generalizing cur with
  | nil => exact h
  | cons y r ih =>
    rcases h with ⟨rfl, rfl⟩ | ⟨m, rfl, hm, h⟩
    · exact Or.inl ⟨rfl, rfl⟩
    · refine Or.inr ⟨m, rfl, (hf m hm).1, ?_⟩
      rw [(hf m hm).2]
      exact ih _ h

/-- the new intermediate state of `addSeq` (a copy of the state it replaces when overwriting) -/
def seqPrep (b : DfaB) (ow : Bool) (f lo : Nat) : DfaB :=
  let b1 := (b.newState false).1
  let tsi := (b.newState false).2
  let old : Option Nat := if ow then ((b1.states[f]?).bind fun s => s.next.getD lo none) else none
  match old.bind (fun o => b1.states[o]?) with
  | some os => { b1 with states := b1.states.modify tsi fun t => { t with next := os.next } }
  | none => b1

theorem addSeq_nil (b : DfaB) (ow : Bool) (f to : Nat) : b.addSeq ow f to [] = b := rfl

theorem addSeq_one (b : DfaB) (ow : Bool) (f to : Nat) (r : Nat × Nat) :
    b.addSeq ow f to [r] = b.addRange ow f to r.1 r.2 := rfl

theorem addSeq_cons2 (b : DfaB) (ow : Bool) (f to : Nat) (r r2 : Nat × Nat) (rest : List (Nat × Nat)) :
    b.addSeq ow f to (r :: r2 :: rest) =
      ((seqPrep b ow f r.1).addRange ow f b.states.size r.1 r.2).addSeq ow b.states.size to
        (r2 :: rest) := rfl

theorem fresh_size (mt : Bool) : (DState.fresh mt).next.size = 256 := by simp [DState.fresh]

theorem push_modify {α} (a : Array α) (x : α) (g : α → α) :
    (a.push x).modify a.size g = a.push (g x) := by
  apply Array.ext_getElem?
  intro i
  simp only [Array.getElem?_modify, Array.getElem?_push]
  by_cases h : i = a.size
  · subst h; simp
  · simp [h, Ne.symm h]

theorem stepS_push_old (a : Array DState) (T : DState) (m : Nat) (hm : m < a.size) (y : UInt8) :
    stepS (a.push T) m y = stepS a m y := by
  simp only [stepS, Array.getElem?_push, if_neg (Nat.ne_of_lt hm)]

theorem stepS_push_new (a : Array DState) (T : DState) (y : UInt8) :
    stepS (a.push T) a.size y = T.next.getD y.toNat none := by
  simp [stepS]

theorem fresh_getD (mt : Bool) (j : Nat) : (DState.fresh mt).next.getD j none = none := by
  simp only [DState.fresh, Array.getD_eq_getD_getElem?, Array.getElem?_replicate]
  split <;> rfl

theorem stepS_lt {s : Array DState} {m : Nat} {y : UInt8} {o : Nat} (h : stepS s m y = some o) :
    m < s.size := by
  unfold stepS at h
  cases hm : s[m]? with
  | none => rw [hm] at h; simp at h
  | some v => rcases Array.getElem?_eq_some_iff.mp hm with ⟨h, _⟩; exact h

theorem stepS_oob (s : Array DState) (m : Nat) (h : s.size ≤ m) (y : UInt8) : stepS s m y = none := by
  simp [stepS, Array.getElem?_eq_none h]

theorem AllSz.push {b : DfaB} (h : AllSz b) {T : DState} (hT : T.next.size = 256)
    (cache : List (List Nat × Nat)) : AllSz ⟨b.states.push T, cache⟩ := by
  intro m s hs
  simp only [Array.getElem?_push] at hs
  split at hs
  · simp only [Option.some.injEq] at hs; subst hs; exact hT
  · exact h m s hs

theorem seqPrep_states (b : DfaB) (ow : Bool) (f lo : Nat) (hsz : AllSz b) :
    ∃ T : DState, seqPrep b ow f lo = { states := b.states.push T, cache := b.cache } ∧
      T.next.size = 256 := by
  unfold seqPrep
  simp only [DfaB.newState]
  split
  · next os heq =>
    refine ⟨{ DState.fresh false with next := os.next }, by rw [push_modify], ?_⟩
    rw [Option.bind_eq_some_iff] at heq
    obtain ⟨o, _, ho⟩ := heq
    exact (hsz.push (fresh_size false) b.cache) o os ho
  · exact ⟨DState.fresh false, rfl, fresh_size _⟩

/-- the new intermediate state of `seqPrep` steps like the state that the replaced transition led to
(overwriting), else nowhere. No side conditions: `stepS` is `none` on states that do not exist. -/
theorem seqPrep_step (b : DfaB) (ow : Bool) (f lo : Nat) (y : UInt8) :
    stepS (seqPrep b ow f lo).states b.states.size y =
      if ow then ((b.states[f]?).bind fun s => s.next.getD lo none).bind
        (fun o => stepS b.states o y) else none := by
  have hfresh : stepS (b.states.push (DState.fresh false)) b.states.size y = none := by
    rw [stepS_push_new, fresh_getD]
  have hget : ∀ m, (b.states.push (DState.fresh false))[m]? =
      if m = b.states.size then some (DState.fresh false) else b.states[m]? :=
    fun m => Array.getElem?_push
  have hold : ((b.states.push (DState.fresh false))[f]?).bind
      (fun s => s.next.getD lo none) = (b.states[f]?).bind fun s => s.next.getD lo none := by
    rw [hget]
    split
    · next h =>
      subst h
      simp only [Option.bind_some, fresh_getD, Array.getElem?_eq_none (Nat.le_refl _), Option.bind_none]
    · rfl
  unfold seqPrep
  simp only [DfaB.newState]
  cases ow with
  | false => exact hfresh
  | true =>
    simp only [if_true, hold]
    cases ho : (b.states[f]?).bind fun s => s.next.getD lo none with
    | none => exact hfresh
    | some o =>
      simp only [Option.bind_some, hget]
      by_cases hoz : o = b.states.size
      · subst hoz
        simp only [if_true, push_modify, stepS_push_new, fresh_getD]
        exact (stepS_oob _ _ (Nat.le_refl _) y).symm
      · simp only [if_neg hoz]
        cases hos : b.states[o]? with
        | none => simp only [stepS, hos, Option.bind_none]; exact hfresh
        | some os =>
          simp only [push_modify, stepS_push_new]
          simp only [stepS, hos, Option.bind_some]

/-- `m` is the DFA state of some DP row -/
def IsRow (b : DfaB) (m : Nat) : Prop := ∃ R, b.cache.lookup R = some m

/-- `m` is an intermediate state (inside the encoding of one character) -/
def okI (b : DfaB) (m : Nat) : Prop := m < b.states.size ∧ ¬ IsRow b m

/-- what a construction step leaves alone (`i`: the only old state whose table may change) -/
structure Ext (b b' : DfaB) (i : Nat) : Prop where
  size : b.states.size ≤ b'.states.size
  other : ∀ m, m < b.states.size → m ≠ i → b'.states[m]? = b.states[m]?
  isM : ∀ m, m < b.states.size → (b'.states[m]?).map (·.isMatch) = (b.states[m]?).map (·.isMatch)
  cacheMono : ∀ R j, b.cache.lookup R = some j → b'.cache.lookup R = some j
  cacheNew : ∀ R j, b'.cache.lookup R = some j → b.cache.lookup R = some j ∨ b.states.size ≤ j

/-- steps compose; primed: the second may work on another state, one that the first created
(`Ext.trans`: on the same state) -/
theorem Ext.trans' {b b' b'' : DfaB} {i i' : Nat} (h1 : Ext b b' i) (h2 : Ext b' b'' i')
    (hi : i' = i ∨ b.states.size ≤ i') : Ext b b'' i := by
  refine ⟨Nat.le_trans h1.size h2.size, ?_, ?_, ?_, ?_⟩
  · intro m hm hne
    rw [h2.other m (Nat.lt_of_lt_of_le hm h1.size) (by omega), h1.other m hm hne]
  · intro m hm
    rw [h2.isM m (Nat.lt_of_lt_of_le hm h1.size), h1.isM m hm]
  · intro R j h; exact h2.cacheMono R j (h1.cacheMono R j h)
  · intro R j h
    rcases h2.cacheNew R j h with h | h
    · exact h1.cacheNew R j h
    · exact Or.inr (Nat.le_trans h1.size h)

theorem Ext.trans {b b' b'' : DfaB} {i : Nat} (h1 : Ext b b' i) (h2 : Ext b' b'' i) : Ext b b'' i :=
  h1.trans' h2 (Or.inl rfl)

theorem Ext.step {b b' : DfaB} {i : Nat} (h : Ext b b' i) (m : Nat) (hm : m < b.states.size)
    (hne : m ≠ i) (y : UInt8) : stepS b'.states m y = stepS b.states m y :=
  stepS_congr (h.other m hm hne) y

/-- what `addSeq` leaves alone: the cache as well, and the tables keep their size -/
structure SeqFrame (b b' : DfaB) (f : Nat) : Prop extends Ext b b' f where
  cache : b'.cache = b.cache
  allSz : AllSz b'

/-- primed: from the facts `addRange`/`addSeq` give directly — `cache` equal and `isMatch` kept at `f` —
instead of the three fields of `Ext` that follow from them -/
theorem SeqFrame.mk' {b b' : DfaB} {f : Nat} (cache : b'.cache = b.cache)
    (size : b.states.size ≤ b'.states.size) (allSz : AllSz b')
    (other : ∀ m, m < b.states.size → m ≠ f → b'.states[m]? = b.states[m]?)
    (isM : (b'.states[f]?).map (·.isMatch) = (b.states[f]?).map (·.isMatch)) : SeqFrame b b' f := by
  refine ⟨⟨size, other, ?_, ?_, ?_⟩, cache, allSz⟩
  · intro m hm
    by_cases e : m = f
    · subst e; exact isM
    · rw [other m hm e]
  · intro R j hl; rw [cache]; exact hl
  · intro R j hl; rw [cache] at hl; exact Or.inl hl

theorem SeqFrame.refl {b : DfaB} (f : Nat) (h : AllSz b) : SeqFrame b b f :=
  .mk' rfl (Nat.le_refl _) h (fun _ _ _ => rfl) rfl

theorem SeqFrame.trans {b b' b'' : DfaB} {f f' : Nat} (h1 : SeqFrame b b' f) (h2 : SeqFrame b' b'' f')
    (hf : f' = f ∨ b.states.size ≤ f') : SeqFrame b b'' f :=
  ⟨h1.toExt.trans' h2.toExt hf, by rw [h2.cache, h1.cache], h2.allSz⟩

/-- the first round of `addSeq` on a sequence of at least two ranges: one fresh state `b.states.size`,
entered from `f` on the first range, and `addSeq` goes on from there -/
theorem addSeq_round (b : DfaB) (ow : Bool) (f to : Nat) (r r2 : Nat × Nat)
    (rest : List (Nat × Nat)) (hsz : AllSz b) (hf : f < b.states.size) (hr : r.2 < 256) :
    ∃ b3 : DfaB, b.addSeq ow f to (r :: r2 :: rest) = b3.addSeq ow b.states.size to (r2 :: rest) ∧
      SeqFrame b b3 f ∧ b3.states.size = b.states.size + 1 ∧
      (∀ y : UInt8, stepS b3.states f y =
        if r.1 ≤ y.toNat ∧ y.toNat ≤ r.2 ∧ (ow = true ∨ stepS b.states f y = none)
        then some b.states.size else stepS b.states f y) ∧
      (∀ y, stepS b3.states b.states.size y =
        if ow then ((b.states[f]?).bind fun s => s.next.getD r.1 none).bind
          (fun o => stepS b.states o y) else none) := by
  obtain ⟨T, hb2, hT⟩ := seqPrep_states b ow f r.1 hsz
  have hsz2 : AllSz (seqPrep b ow f r.1) := hb2 ▸ hsz.push hT b.cache
  have hold : ∀ m, m < b.states.size → (seqPrep b ow f r.1).states[m]? = b.states[m]? := by
    intro m hm
    rw [hb2]
    simp only [Array.getElem?_push, if_neg (Nat.ne_of_lt hm)]
  have hsize : ((seqPrep b ow f r.1).addRange ow f b.states.size r.1 r.2).states.size
      = b.states.size + 1 := by rw [addRange_size, hb2, Array.size_push]
  refine ⟨(seqPrep b ow f r.1).addRange ow f b.states.size r.1 r.2, addSeq_cons2 ..,
    .mk' (by rw [addRange_cache, hb2]) (Nat.le.intro hsize.symm) (addRange_allSz _ _ _ _ _ _ hsz2) ?_ ?_, hsize, ?_, ?_⟩
  · intro m hm hne
    rw [addRange_other _ _ _ _ _ _ m hne, hold m hm]
  · rw [addRange_isMatch, hold f hf]
  · intro y
    have hf2 : f < (seqPrep b ow f r.1).states.size := by rw [hb2, Array.size_push]; exact Nat.lt_succ_of_lt hf
    rw [addRange_step _ ow f b.states.size r.1 r.2 hsz2 hf2 hr y, stepS_congr (hold f hf)]
  · intro y
    rw [stepS_congr (addRange_other _ _ _ _ _ _ _ (Nat.ne_of_gt hf)), seqPrep_step]

/-- `addSeq` from the state `f`: the frame, the transitions of `f`, growth, and the new path — the words
matched by the sequence lead to `to`, through fresh states only -/
theorem addSeq_spec (ow : Bool) (to : Nat) (seq : List (Nat × Nat)) :
    ∀ (b : DfaB) (f : Nat), AllSz b → f < b.states.size → (∀ r ∈ seq, r.2 < 256) →
    SeqFrame b (b.addSeq ow f to seq) f ∧
    (∀ r rest, seq = r :: rest → ∀ y : UInt8,
      stepS (b.addSeq ow f to seq).states f y =
        if r.1 ≤ y.toNat ∧ y.toNat ≤ r.2 ∧ (ow = true ∨ stepS b.states f y = none)
        then some (if rest = [] then to else b.states.size) else stepS b.states f y) ∧
    (2 ≤ seq.length → b.states.size < (b.addSeq ow f to seq).states.size) ∧
    ∀ (ok' : Nat → Prop), (∀ m, b.states.size ≤ m → m < (b.addSeq ow f to seq).states.size → ok' m) →
      ∀ x w, SeqMatches (x :: w) seq → (ow = true ∨ stepS b.states f x = none) →
      Walk (b.addSeq ow f to seq).states ok' (stepS (b.addSeq ow f to seq).states f x) w (some to) := by
  induction seq with
  | nil =>
    intro b f hsz hf hr
    exact ⟨.refl f hsz, fun r rest h => by simp at h, fun h => by simp at h,
      fun _ _ x w hm => by simp [SeqMatches] at hm⟩
  | cons r rest ih =>
    intro b f hsz hf hr
    cases rest with
    | nil =>
      rw [addSeq_one]
      have hstep := addRange_step b ow f to r.1 r.2 hsz hf (hr r (by simp))
      refine ⟨.mk' (addRange_cache ..) (Nat.le_of_eq (addRange_size ..).symm) (addRange_allSz _ _ _ _ _ _ hsz)
        (fun m _ hne => addRange_other _ _ _ _ _ _ m hne) (addRange_isMatch ..), ?_,
        fun h => by simp at h, ?_⟩
      · intro r' rest' e y
        simp only [List.cons.injEq] at e
        obtain ⟨rfl, rfl⟩ := e
        rw [hstep y]
        simp
      · intro ok' _ x w hm hblank
        cases w with
        | cons _ _ => simp [SeqMatches] at hm
        | nil =>
          simp only [SeqMatches, and_true] at hm
          rw [hstep x, if_pos ⟨hm.1, hm.2, hblank⟩]
          rfl
    | cons r2 rest =>
      obtain ⟨b3, e, fr3, hsize3, hstep3, hnew⟩ :=
        addSeq_round b ow f to r r2 rest hsz hf (hr r (by simp))
      rw [e]
      obtain ⟨fr, -, -, hwalk⟩ := ih b3 b.states.size fr3.allSz (by omega)
        (fun r' hr' => hr r' (List.mem_cons_of_mem _ hr'))
      have hlt := fr.size
      have hstep : ∀ y, stepS (b3.addSeq ow b.states.size to (r2 :: rest)).states f y = _ :=
        fun y => (fr.step f (by omega) (by omega) y).trans (hstep3 y)
      refine ⟨fr3.trans fr (Or.inr (Nat.le_refl _)), ?_, fun _ => by omega, ?_⟩
      · intro r' rest' e' y
        simp only [List.cons.injEq] at e'
        obtain ⟨rfl, rfl⟩ := e'
        rw [hstep]
        simp
      · intro ok' hok x w hm hblank
        cases w with
        | nil => simp [SeqMatches] at hm
        | cons x2 w =>
          -- the first byte leads to the fresh state, which is blank unless overwriting
          rw [hstep, if_pos ⟨hm.1, hm.2.1, hblank⟩]
          refine Or.inr ⟨b.states.size, rfl, hok _ (Nat.le_refl _) (by omega), ?_⟩
          apply hwalk ok' (fun m h1 h2 => hok m (by omega) h2) x2 w hm.2.2
          cases ow with
          | true => exact Or.inl rfl
          | false => exact Or.inr (hnew x2)

/-- the ranges spelling a byte string -/
def byteSeq (w : List UInt8) : List (Nat × Nat) := w.map fun x => (x.toNat, x.toNat)

theorem byteSeq_lt (w : List UInt8) : ∀ r ∈ byteSeq w, r.2 < 256 :=
  List.forall_mem_map.mpr fun x _ => x.toNat_lt

theorem byteSeq_matches (w : List UInt8) : SeqMatches w (byteSeq w) := by
  induction w with
  | nil => trivial
  | cons x w ih => exact ⟨Nat.le_refl _, Nat.le_refl _, ih⟩

/-- overwriting the path of one byte string keeps every walk over a byte string of which it is no
prefix and which is no prefix of it: the fresh states start as copies of the states they replace -/
theorem addSeq_walk_other (to : Nat) (w : List UInt8) :
    ∀ (b : DfaB) (f : Nat) (x : UInt8), AllSz b → f < b.states.size →
    (ok ok' : Nat → Prop) → (∀ m, ok m → m < b.states.size) → ¬ ok f → (∀ m, ok m → ok' m) →
    (∀ m, b.states.size ≤ m → m < (b.addSeq true f to (byteSeq (x :: w))).states.size → ok' m) →
    (x' : UInt8) → (w' : List UInt8) → (o : Option Nat) →
    ¬ (x :: w) <+: (x' :: w') → ¬ (x' :: w') <+: (x :: w) →
    Walk b.states ok (stepS b.states f x') w' o →
    Walk (b.addSeq true f to (byteSeq (x :: w))).states ok'
      (stepS (b.addSeq true f to (byteSeq (x :: w))).states f x') w' o := by
  induction w with
  | nil =>
    intro b f x hsz hf ok ok' hok hokf hsub hfresh x' w' o hp hp' hwalk
    have hne : x ≠ x' := fun e => hp (e ▸ List.cons_prefix_cons.mpr ⟨rfl, List.nil_prefix⟩)
    obtain ⟨fr, hstep, -, -⟩ := addSeq_spec true to (byteSeq [x]) b f hsz hf (byteSeq_lt _)
    rw [hstep _ [] rfl x', if_neg fun ⟨h1, h2, _⟩ => hne (UInt8.toNat_inj.mp (Nat.le_antisymm h1 h2))]
    exact Walk_frame _ _ ok ok' (fun m hm => ⟨hsub m hm, fr.step m (hok m hm) (fun e => hokf (e ▸ hm))⟩)
      _ _ _ hwalk
  | cons y w ih =>
    intro b f x hsz hf ok ok' hok hokf hsub hfresh x' w' o hp hp' hwalk
    obtain ⟨fr, hstep, hlt, -⟩ := addSeq_spec true to (byteSeq (x :: y :: w)) b f hsz hf (byteSeq_lt _)
    by_cases hne : x = x'
    · subst hne
      cases w' with
      | nil => exact absurd (List.cons_prefix_cons.mpr ⟨rfl, List.nil_prefix⟩) hp'
      | cons y' w' =>
        rw [hstep _ (byteSeq (y :: w)) rfl x, if_pos ⟨Nat.le_refl _, Nat.le_refl _, Or.inl rfl⟩]
        have hne2 : byteSeq (y :: w) ≠ [] := by simp [byteSeq]
        simp only [hne2, if_false]
        obtain ⟨b3, e, fr3, hsize3, -, hnew⟩ :=
          addSeq_round b true f to (x.toNat, x.toNat) (y.toNat, y.toNat) (byteSeq w) hsz hf x.toNat_lt
        have e' : b.addSeq true f to (byteSeq (x :: y :: w))
            = b3.addSeq true b.states.size to (byteSeq (y :: w)) := e
        -- the fresh state is a copy of the state that `x` led to
        have hcopy : stepS b3.states b.states.size y'
            = (stepS b.states f x).bind fun o => stepS b.states o y' := hnew y'
        refine Or.inr ⟨b.states.size, rfl, hfresh _ (Nat.le_refl _) (hlt (by simp [byteSeq])), ?_⟩
        rw [e']
        apply ih b3 b.states.size y fr3.allSz (by omega) ok ok' (fun m hm => by have := hok m hm; omega)
          (fun h => by have := hok _ h; omega) hsub _ y' w' o
          (fun h => hp (List.cons_prefix_cons.mpr ⟨rfl, h⟩))
          (fun h => hp' (List.cons_prefix_cons.mpr ⟨rfl, h⟩))
        · rcases hwalk with ⟨h1, rfl⟩ | ⟨m, h1, hm, hw⟩
          · rw [hcopy, h1]
            exact Walk_none _ _ _
          · rw [hcopy, h1]
            exact Walk_frame _ _ ok ok (fun m' hm' => ⟨hm',
              fr3.step m' (hok m' hm') (fun e => hokf (e ▸ hm'))⟩) _ _ _ hw
        · intro m h1 h2
          rw [← e'] at h2
          exact hfresh m (by omega) h2
    · rw [hstep _ (byteSeq (y :: w)) rfl x',
        if_neg fun ⟨h1, h2, _⟩ => hne (UInt8.toNat_inj.mp (Nat.le_antisymm h1 h2))]
      exact Walk_frame _ _ ok ok' (fun m hm => ⟨hsub m hm, fr.step m (hok m hm) (fun e => hokf (e ▸ hm))⟩)
        _ _ _ hwalk

/-- the mismatch transitions: sequences with pairwise disjoint lead ranges, entered from a state that is
blank on them; every word matched by one of them leads to `to`, through fresh states only -/
theorem addSeqs_false_walk (to : Nat) (seqs : List (List (Nat × Nat))) :
    ∀ (b : DfaB) (f : Nat), AllSz b → f < b.states.size →
    (∀ s ∈ seqs, s ≠ [] ∧ ∀ r ∈ s, r.2 < 256) → seqs.Pairwise leadDisj →
    (∀ s ∈ seqs, ∀ y, inLead s y → stepS b.states f y = none) →
    SeqFrame b (b.addSeqs false f to seqs) f ∧
    (∀ y, (∀ s ∈ seqs, ¬ inLead s y) →
      stepS (b.addSeqs false f to seqs).states f y = stepS b.states f y) ∧
    ∀ (ok' : Nat → Prop), (∀ m, b.states.size ≤ m → m < (b.addSeqs false f to seqs).states.size → ok' m) →
      ∀ s ∈ seqs, ∀ x w, SeqMatches (x :: w) s →
      Walk (b.addSeqs false f to seqs).states ok' (stepS (b.addSeqs false f to seqs).states f x) w (some to) := by
  induction seqs with
  | nil =>
    intro b f hsz hf _ _ _
    exact ⟨.refl f hsz, fun _ _ => rfl, fun _ _ s hs => by simp at hs⟩
  | cons s ss ih =>
    intro b f hsz hf hss hpw hblank
    have e : b.addSeqs false f to (s :: ss) = (b.addSeq false f to s).addSeqs false f to ss := by
      simp only [DfaB.addSeqs, List.foldl_cons]
    rw [e]
    obtain ⟨hsne, hsr⟩ := hss s (by simp)
    obtain ⟨r, rest, rfl⟩ := List.exists_cons_of_ne_nil hsne
    obtain ⟨fr1, hstep1, -, hwalk1⟩ := addSeq_spec false to (r :: rest) b f hsz hf hsr
    have hstep1 := hstep1 r rest rfl
    rw [List.pairwise_cons] at hpw
    have hblank1 : ∀ t ∈ ss, ∀ y, inLead t y → stepS (b.addSeq false f to (r :: rest)).states f y = none := by
      intro t ht y hy
      rw [hstep1 y, if_neg, hblank t (List.mem_cons_of_mem _ ht) y hy]
      intro ⟨h1, h2, _⟩
      exact (hpw.1 t ht).not_inLead (And.intro h1 h2) hy
    obtain ⟨fr2, hstep2, hwalk2⟩ := ih (b.addSeq false f to (r :: rest)) f fr1.allSz
      (Nat.lt_of_lt_of_le hf fr1.size) (fun t ht => hss t (List.mem_cons_of_mem _ ht)) hpw.2 hblank1
    refine ⟨fr1.trans fr2 (Or.inl rfl), ?_, ?_⟩
    · intro y hy
      rw [hstep2 y (fun t ht => hy t (List.mem_cons_of_mem _ ht)), hstep1 y, if_neg]
      intro ⟨h1, h2, _⟩
      exact hy (r :: rest) (by simp) (And.intro h1 h2)
    · intro ok' hok t ht x w hm
      rw [List.mem_cons] at ht
      rcases ht with rfl | ht
      · -- the path of the first sequence runs through its own fresh states; the later sequences keep it
        have hx : inLead (r :: rest) x := seqMatches_inLead x w _ hm
        have hw1 := hwalk1 (fun m => b.states.size ≤ m ∧ m < (b.addSeq false f to (r :: rest)).states.size)
          (fun m h1 h2 => ⟨h1, h2⟩) x w hm (Or.inr (hblank _ (by simp) x hx))
        rw [hstep2 x (fun t ht => (hpw.1 t ht).not_inLead hx)]
        exact Walk_frame _ _ _ _ (fun m hm => ⟨hok m hm.1 (Nat.lt_of_lt_of_le hm.2 fr2.size),
          fr2.step m hm.2 (by omega)⟩) _ _ _ hw1
      · exact hwalk2 ok' (fun m h1 h2 => hok m (Nat.le_trans fr1.size h1) h2) t ht x w hm

/-- the states `addSeq`/`addSeqs` created are intermediate states -/
theorem SeqFrame.fresh {b b' : DfaB} {f : Nat} (fr : SeqFrame b b' f)
    (hrow : ∀ R m, b.cache.lookup R = some m → m < b.states.size) (m : Nat) (h1 : b.states.size ≤ m)
    (h2 : m < b'.states.size) : okI b' m := by
  refine ⟨h2, ?_⟩
  intro ⟨R, hR⟩
  rw [fr.cache] at hR
  exact absurd (hrow R m hR) (by omega)

end LevDfa
end Fst
