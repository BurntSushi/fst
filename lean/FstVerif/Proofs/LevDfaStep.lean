import FstVerif.Proofs.LevDfaInv
import FstVerif.Proofs.LevDfaUtf8
/-
One iteration of the worklist loop: `levStep` keeps the invariant `Inv`
("every cached row is blank and on the stack exactly once, or fully processed").
In the middle of a step the invariant is `MInv`: `MBase` plus `CurWalks`, where every character leads from
the row in hand (to its successor row's state, or still to the mismatch row's while `Pd`, pending).
`mmPart_inv`: the mismatch transitions; `qBody_inv`: one query character overwrites its own
path and nothing else; `levStep_inv`: the whole step.
-/
namespace Fst
namespace LevDfa
open Spec

/-- the body of `for (i, c) in query.chars().enumerate()` -/
def qBody (l : DynLev) (levState : List Nat) (dfaSi : Nat)
    (acc : DfaB × List (List Nat) × List Nat) (ci : Nat × Nat) : DfaB × List (List Nat) × List Nat :=
  let (b, stack, seen) := acc
  let (c, i) := ci
  if levState.getD i 0 > l.dist then acc else
  let nx := l.accept levState (some c)
  let (b, c3) := b.cached l nx
  match c3 with
  | none => (b, stack, seen)
  | some (nextSi, _) =>
    let b := b.addSeq true dfaSi nextSi ((utf8Enc c).map fun x => (x.toNat, x.toNat))
    if seen.contains nextSi then (b, stack, seen) else (b, nx :: stack, nextSi :: seen)

/-- `add_mismatch_utf8_states` and the push that follows it -/
def mmPart (l : DynLev) (full : List (List (Nat × Nat))) (levState : List Nat) (dfaSi : Nat)
    (b : DfaB) (stack : List (List Nat)) (seen : List Nat) : DfaB × List (List Nat) × List Nat :=
  let mm := l.accept levState none
  let (b, c2) := b.cached l mm
  match c2 with
  | none => (b, stack, seen)
  | some (toSi, _) =>
    let b := b.addSeqs false dfaSi toSi full
    if seen.contains toSi then (b, stack, seen)
    else (b, mm :: stack, toSi :: seen)

theorem levStep_eq (l : DynLev) (full : List (List (Nat × Nat))) (w : LevWork) (R : List Nat) :
    levStep l full w R =
      match w.b.cached l R with
      | (b, none) => { w with b := b }
      | (b, some (dfaSi, _)) =>
        let r := (l.query.zipIdx).foldl (qBody l R dfaSi) (mmPart l full R dfaSi b w.stack w.seen)
        { b := r.1, stack := r.2.1, seen := r.2.2 } := by
  unfold levStep
  rcases w.b.cached l R with ⟨b, _ | ⟨dfaSi, fl⟩⟩
  · rfl
  · rfl

/-- `c` is pending (`Pd`): it has not been redirected by the (character, index) pairs handled so far -/
def Pd (l : DynLev) (R : List Nat) (done : List (Nat × Nat)) (c : Nat) : Prop :=
  ∀ p ∈ done, p.1 = c → l.dist < R.getD p.2 0

theorem Pd.snoc {l : DynLev} {R : List Nat} {done : List (Nat × Nat)} {c : Nat} (h : Pd l R done c)
    (p : Nat × Nat) (hp : p.1 = c → l.dist < R.getD p.2 0) : Pd l R (done ++ [p]) c := by
  intro p' hp' e
  rw [List.mem_append, List.mem_singleton] at hp'
  rcases hp' with hp' | rfl
  · exact h p' hp' e
  · exact hp e

/-- every character leads from `i` to the state of its successor row — or still to the state of
the mismatch row, if it has not been redirected -/
def CurWalks (l : DynLev) (b : DfaB) (R : List Nat) (i : Nat) (done : List (Nat × Nat)) : Prop :=
  ∀ c, ValidScalar c → ∃ o, WalkTo b i (utf8Enc c) o ∧
    (Tgt l b (l.accept R (some c)) o ∨ (Tgt l b (l.accept R none) o ∧ Pd l R done c))

/-- the invariant in the middle of a step: `MBase` of the loop state `(builder, stack, seen)`, and where the characters
lead from the row `R` in hand after the pairs `done` -/
structure MInv (l : DynLev) (acc : DfaB × List (List Nat) × List Nat)
    (R : List Nat) (i : Nat) (done : List (Nat × Nat)) : Prop where
  mb : MBase l acc.1 acc.2.1 acc.2.2 R i
  cw : CurWalks l acc.1 R i done

theorem MBase.rne {l b stack seen R i} (h : MBase l b stack seen R i) : R ≠ [] := by
  intro e
  have := (h.base.cacheOk R i h.cur).2.1
  rw [e] at this
  simp [DynLev.canMatch] at this

theorem qBody_inv {l : DynLev} {b : DfaB} {stack : List (List Nat)} {seen : List Nat}
    {R : List Nat} {i : Nat} {done : List (Nat × Nat)} (h : MInv l (b, stack, seen) R i done)
    (c idx : Nat) (hc : ValidScalar c) :
    MInv l (qBody l R i (b, stack, seen) (c, idx)) R i (done ++ [(c, idx)]) := by
  unfold qBody
  simp only
  by_cases hskip : R.getD idx 0 > l.dist
  · -- `continue`: the row is over the distance at `idx`; nothing is written and `c` stays pending
    rw [if_pos hskip]
    refine ⟨h.mb, ?_⟩
    intro c' hc'
    obtain ⟨o, h1, h2⟩ := h.cw c' hc'
    refine ⟨o, h1, ?_⟩
    rcases h2 with h2 | ⟨h2, h3⟩
    · exact Or.inl h2
    · exact Or.inr ⟨h2, h3.snoc (c, idx) fun _ => hskip⟩
  · rw [if_neg hskip]
    rcases hcd : b.cached l (l.accept R (some c)) with ⟨b1, _ | ⟨j, fl⟩⟩
    · -- the successor row of `c` cannot match: nothing is written. `c` still leads where the mismatch row
      -- sent it, and that is `none` as well: the successor row can match whenever the mismatch row can
      simp only
      obtain ⟨rfl, hcm⟩ := cached_none l b b1 _ hcd
      refine ⟨h.mb, ?_⟩
      intro c' hc'
      obtain ⟨o, h1, h2⟩ := h.cw c' hc'
      refine ⟨o, h1, ?_⟩
      rcases h2 with h2 | ⟨h2, h3⟩
      · exact Or.inl h2
      · by_cases e : c' = c
        · subst e
          left
          rcases h2 with h2 | ⟨t, h4, _⟩
          · exact Or.inl ⟨hcm, h2.2⟩
          · have := (h.mb.base.cacheOk _ t h4).2.1
            rw [canMatch_accept_mono l R c' hcm] at this
            exact absurd this (by simp)
        · exact Or.inr ⟨h2, h3.snoc (c, idx) fun e' => absurd e'.symm e⟩
    · -- the successor row has the state `j`: `addSeq true` redirects the path of `utf8Enc c` from `i` to `j`;
      -- the path of any other character survives, because neither encoding is a prefix of the other
      simp only
      obtain ⟨stack', seen', hpush, mb1, hext1, hlk1⟩ := cached_some h.mb _ b1 j fl hcd
        (accept_ne_self l R _ h.mb.rne) (accept_ne_start l R _ h.mb.rne)
      rw [hpush]
      have hi : i < b.states.size := (h.mb.base.cacheOk R i h.mb.cur).1
      have hi1 : i < b1.states.size := (mb1.base.cacheOk R i mb1.cur).1
      obtain ⟨x, w, hxw⟩ := List.exists_cons_of_ne_nil (utf8Enc_ne_nil c)
      have hseq : (List.map (fun x : UInt8 => (x.toNat, x.toNat)) (utf8Enc c)) = byteSeq (x :: w) := by
        rw [hxw]; rfl
      rw [hseq]
      obtain ⟨fr, -, -, hnew⟩ := addSeq_spec true j (byteSeq (x :: w)) b1 i mb1.base.allSz hi1 (byteSeq_lt _)
      have mb2 := mb1.ext fr
      have hfresh := fr.fresh fun R' m hR' => (mb1.base.cacheOk R' m hR').1
      refine ⟨mb2, ?_⟩
      intro c' hc'
      by_cases e : c' = c
      · subst e
        refine ⟨some j, ?_, Or.inl (Or.inr ⟨j, by rw [fr.cache]; exact hlk1, rfl⟩)⟩
        rw [hxw]
        exact hnew _ hfresh x w (byteSeq_matches _) (Or.inl rfl)
      · obtain ⟨o, h1, h2⟩ := h.cw c' hc'
        have h1' : WalkTo b1 i (utf8Enc c') o :=
          hext1.walkTo (fun hk => Nat.lt_irrefl _ hk.1) i (hext1.step i hi (Nat.ne_of_lt hi)) _ _ h1
        have hp := fun h => e (utf8Enc_prefix_free c c' hc hc' h).symm
        have hp' := fun h => e (utf8Enc_prefix_free c' c hc' hc h)
        obtain ⟨x', w', hxw'⟩ := List.exists_cons_of_ne_nil (utf8Enc_ne_nil c')
        rw [hxw] at hp hp'
        rw [hxw'] at hp hp' h1' ⊢
        refine ⟨o, ?_, ?_⟩
        · exact addSeq_walk_other j w b1 i x mb1.base.allSz hi1 (okI b1) _ (fun m hm => hm.1)
            mb1.isRow (fun m hm => fr.toExt.presOk hm) hfresh x' w' o hp hp' h1'
        · rcases h2 with h2 | ⟨h2, h3⟩
          · exact Or.inl (fr.toExt.tgt l _ _ (hext1.tgt l _ _ h2))
          · exact Or.inr ⟨fr.toExt.tgt l _ _ (hext1.tgt l _ _ h2),
              h3.snoc (c, idx) fun e' => absurd e'.symm e⟩

theorem mmPart_inv {l : DynLev} {b : DfaB} {stack : List (List Nat)} {seen : List Nat}
    {R : List Nat} {i : Nat} (h : MBase l b stack seen R i) (hblank : Blank b i) :
    MInv l (mmPart l utf8Full R i b stack seen) R i [] := by
  unfold mmPart
  simp only
  rcases hcd : b.cached l (l.accept R none) with ⟨b1, _ | ⟨j, fl⟩⟩
  · -- the mismatch row cannot match: `i` stays blank, every character leads nowhere
    simp only
    obtain ⟨rfl, hcm⟩ := cached_none l b b1 _ hcd
    refine ⟨h, ?_⟩
    intro c hc
    obtain ⟨x, w, hxw⟩ := List.exists_cons_of_ne_nil (utf8Enc_ne_nil c)
    refine ⟨none, ?_, Or.inr ⟨Or.inl ⟨hcm, rfl⟩, fun p hp => by simp at hp⟩⟩
    rw [hxw]
    show Walk _ _ (stepS b1.states i x) w none
    rw [hblank x]
    exact Walk_none _ _ _
  · -- the nine sequences of `utf8Full`, laid from the blank state `i`, lead every character to the state `j`
    -- of the mismatch row
    simp only
    obtain ⟨stack', seen', hpush, mb1, hext1, hlk1⟩ := cached_some h _ b1 j fl hcd
      (accept_ne_self l R _ h.rne) (accept_ne_start l R _ h.rne)
    rw [hpush]
    have hi : i < b.states.size := (h.base.cacheOk R i h.cur).1
    have hi1 : i < b1.states.size := (mb1.base.cacheOk R i mb1.cur).1
    have blank1 : Blank b1 i := hext1.blank i hi (Nat.ne_of_lt hi) hblank
    obtain ⟨fr, -, hwalk⟩ := addSeqs_false_walk j utf8Full b1 i mb1.base.allSz hi1 utf8Full_ok
      utf8Full_disj (fun s _ y _ => blank1 y)
    have hfresh := fr.fresh fun R' m hR' => (mb1.base.cacheOk R' m hR').1
    generalize b1.addSeqs false i j utf8Full = b2 at fr hwalk hfresh ⊢
    refine ⟨mb1.ext fr, ?_⟩
    intro c hc
    obtain ⟨s, hs, hm⟩ := utf8Enc_matches c hc
    obtain ⟨x, w, hxw⟩ := List.exists_cons_of_ne_nil (utf8Enc_ne_nil c)
    refine ⟨some j, ?_, Or.inr ⟨Or.inr ⟨j, by rw [fr.cache]; exact hlk1, rfl⟩, fun p hp => by simp at hp⟩⟩
    rw [hxw] at hm ⊢
    exact hwalk _ hfresh s hs x w hm

theorem qFold_inv (l : DynLev) (R : List Nat) (i : Nat) (ps : List (Nat × Nat))
    (hps : ∀ p ∈ ps, ValidScalar p.1) :
    ∀ (acc : DfaB × List (List Nat) × List Nat) (done : List (Nat × Nat)),
    MInv l acc R i done → MInv l (ps.foldl (qBody l R i) acc) R i (done ++ ps) := by
  induction ps with
  | nil => intro acc done h; simpa using h
  | cons p ps ih =>
    intro ⟨b, stack, seen⟩ done h
    have h2 := ih (fun p hp => hps p (List.mem_cons_of_mem _ hp)) _ _
      (qBody_inv h p.1 p.2 (hps p (by simp)))
    simpa [List.foldl_cons, List.append_assoc] using h2

/-- the worklist invariant between two steps: every cached row is blank and on the stack, or `Processed` -/
structure Inv (l : DynLev) (w : LevWork) : Prop where
  base : Base l w.b w.seen
  nodup : w.stack.Nodup
  stk : ∀ R ∈ w.stack, ∃ i, w.b.cache.lookup R = some i ∧ Blank w.b i
  done : ∀ R i, w.b.cache.lookup R = some i → R ∉ w.stack → Processed l w.b i R

theorem cached_hit (l : DynLev) (b : DfaB) (R : List Nat) (i : Nat)
    (hc : l.canMatch R = true) (hl : b.cache.lookup R = some i) :
    b.cached l R = (b, some (i, true)) := by
  unfold DfaB.cached
  simp [hc, hl]

theorem levStep_inv (l : DynLev) (hq : ∀ c ∈ l.query, ValidScalar c) (b : DfaB)
    (R : List Nat) (rest : List (List Nat)) (seen : List Nat)
    (h : Inv l ⟨b, R :: rest, seen⟩) : Inv l (levStep l utf8Full ⟨b, rest, seen⟩ R) := by
  obtain ⟨i, hl, hblank⟩ := h.stk R List.mem_cons_self
  have hnd := List.nodup_cons.mp h.nodup
  have hcm := (h.base.cacheOk R i hl).2.1
  have mb : MBase l b rest seen R i := by
    refine ⟨h.base, hnd.2, hnd.1, hl, fun R' hR' => h.stk R' (List.mem_cons_of_mem _ hR'), ?_⟩
    intro R' i' hl' hns hne
    refine h.done R' i' hl' ?_
    intro hm
    rcases List.mem_cons.mp hm with e | e
    · exact hne e
    · exact hns e
  rw [levStep_eq]
  simp only [cached_hit l b R i hcm hl]
  have h1 := mmPart_inv mb hblank
  have hps : ∀ p ∈ l.query.zipIdx, ValidScalar p.1 := by
    intro p hp
    rw [List.mem_zipIdx_iff_getElem?] at hp
    exact hq _ (List.mem_of_getElem? hp)
  have h2 := qFold_inv l R i l.query.zipIdx hps _ _ h1
  simp only [List.nil_append] at h2
  generalize List.foldl (qBody l R i) (mmPart l utf8Full R i b rest seen) l.query.zipIdx = r at h2
  obtain ⟨b', stack', seen'⟩ := r
  simp only at h2 ⊢
  refine ⟨h2.mb.base, h2.mb.nodup, h2.mb.stk, ?_⟩
  intro R' i' hl' hns
  by_cases e : R' = R
  · -- the popped row is `Processed` now: a character still pending after every position of the query is one
    -- whose step from `R` IS the mismatch step (`accept_skip_eq`)
    subst e
    have : i' = i := by
      have := h2.mb.cur
      simp only at hl'
      rw [hl'] at this
      exact Option.some.inj this
    subst this
    intro c hc
    obtain ⟨o, h3, h4⟩ := h2.cw c hc
    refine ⟨o, h3, ?_⟩
    rcases h4 with h4 | ⟨h4, h5⟩
    · exact h4
    · rw [← accept_skip_eq l R' c]
      · exact h4
      · intro idx hidx
        exact h5 (c, idx) (List.mk_mem_zipIdx_iff_getElem?.mpr hidx) rfl
  · exact h2.mb.done R' i' hl' hns e

end LevDfa
end Fst
