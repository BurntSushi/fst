import FstVerif.Model.Lev
import FstVerif.Proofs.LevDfaWords
/-
UTF-8 layer of the byte-level Levenshtein proof (C17): the model's `utf8Enc` against `Spec.utf8Full`
(`Utf8Sequences::new('\0', '\u{10FFFF}')`). The encoding is read on natural numbers (`utf8N`); two
facts give injectivity and prefix-freeness: the payload digits (base 64, `decN`) recover the scalar value
(`decN_utf8N`), and the lead byte tells the length (`utf8N_lead`). That every encoding matches one of the
nine sequences (`utf8Enc_matches`, what the mismatch transitions of the construction need) and conversely
(`utf8Full_matches_enc`, used by no C17 theorem) goes sequence by sequence. Nothing enumerates scalar values.
Small facts on the way: `utf8Enc_length`, `utf8Enc_ne_nil`, `utf8N_cases` (the four forms with their bounds).
-/
namespace Fst
namespace LevDfa
open Spec

/-- the encoding with the bytes as natural numbers -/
def utf8N (c : Nat) : List Nat :=
  if c < 0x80 then [c]
  else if c < 0x800 then [0xC0 + c / 64, 0x80 + c % 64]
  else if c < 0x10000 then [0xE0 + c / 4096, 0x80 + (c / 64) % 64, 0x80 + c % 64]
  else [0xF0 + c / 262144, 0x80 + (c / 4096) % 64, 0x80 + (c / 64) % 64, 0x80 + c % 64]

theorem utf8Enc_eq_map (c : Nat) : utf8Enc c = (utf8N c).map UInt8.ofNat := by
  unfold utf8Enc utf8N
  simp only [apply_ite (List.map UInt8.ofNat)]
  rfl

theorem utf8Enc_ne_nil (c : Nat) : utf8Enc c ≠ [] := by
  simp [utf8Enc, apply_ite (· = [])]

theorem utf8Enc_length (c : Nat) :
    (utf8Enc c).length = if c < 0x80 then 1 else if c < 0x800 then 2 else if c < 0x10000 then 3 else 4 := by
  unfold utf8Enc
  simp only [apply_ite List.length]
  rfl

/-- the payload of an encoding: its base-64 digits behind the length markers, in Horner form -/
def decN : List Nat → Nat
  | [a] => a
  | [a, b] => (a - 0xC0) * 64 + (b - 0x80)
  | [a, b, c] => ((a - 0xE0) * 64 + (b - 0x80)) * 64 + (c - 0x80)
  | [a, b, c, d] => (((a - 0xF0) * 64 + (b - 0x80)) * 64 + (c - 0x80)) * 64 + (d - 0x80)
  | _ => 0

theorem div4096 (c : Nat) : c / 4096 = c / 64 / 64 := (Nat.div_div_eq_div_mul c 64 64).symm

theorem div262144 (c : Nat) : c / 262144 = c / 64 / 64 / 64 := by
  rw [Nat.div_div_eq_div_mul, Nat.div_div_eq_div_mul]

/-- the four cases of `utf8N`, each with the bound that selects it; `split` on the unfolded definition is slow
inside a larger goal -/
theorem utf8N_cases (c : Nat) :
    (c < 0x80 ∧ utf8N c = [c]) ∨ (c < 0x800 ∧ utf8N c = [0xC0 + c / 64, 0x80 + c % 64]) ∨
    (c < 0x10000 ∧ utf8N c = [0xE0 + c / 4096, 0x80 + (c / 64) % 64, 0x80 + c % 64]) ∨
    utf8N c = [0xF0 + c / 262144, 0x80 + (c / 4096) % 64, 0x80 + (c / 64) % 64, 0x80 + c % 64] :=
  if h1 : c < 0x80 then .inl ⟨h1, if_pos h1⟩
  else if h2 : c < 0x800 then .inr (.inl ⟨h2, (if_neg h1).trans (if_pos h2)⟩)
  else if h3 : c < 0x10000 then .inr (.inr (.inl ⟨h3, (if_neg h1).trans ((if_neg h2).trans (if_pos h3))⟩))
  else .inr (.inr (.inr ((if_neg h1).trans ((if_neg h2).trans (if_neg h3)))))

-- the equations of `decN` are put by `show`: unfolding it by `simp only [decN]` runs into the recursion limit
-- (subtraction of a numeral)
theorem decN_utf8N (c : Nat) : decN (utf8N c) = c := by
  rcases utf8N_cases c with ⟨-, e⟩ | ⟨-, e⟩ | ⟨-, e⟩ | e <;> rw [e]
  · rfl
  · show (0xC0 + c / 64 - 0xC0) * 64 + (0x80 + c % 64 - 0x80) = c
    rw [Nat.add_sub_cancel_left, Nat.add_sub_cancel_left]
    exact Nat.div_add_mod' c 64
  · show ((0xE0 + c / 4096 - 0xE0) * 64 + (0x80 + c / 64 % 64 - 0x80)) * 64 + (0x80 + c % 64 - 0x80) = c
    rw [Nat.add_sub_cancel_left, Nat.add_sub_cancel_left, Nat.add_sub_cancel_left, div4096,
      Nat.div_add_mod', Nat.div_add_mod']
  · show (((0xF0 + c / 262144 - 0xF0) * 64 + (0x80 + c / 4096 % 64 - 0x80)) * 64
      + (0x80 + c / 64 % 64 - 0x80)) * 64 + (0x80 + c % 64 - 0x80) = c
    rw [Nat.add_sub_cancel_left, Nat.add_sub_cancel_left, Nat.add_sub_cancel_left,
      Nat.add_sub_cancel_left, div262144, div4096, Nat.div_add_mod', Nat.div_add_mod',
      Nat.div_add_mod']

theorem utf8N_lt (c : Nat) (hc : c < 0x110000) : ∀ y ∈ utf8N c, y < 256 := by
  intro y hy
  rcases utf8N_cases c with ⟨h, e⟩ | ⟨h, e⟩ | ⟨h, e⟩ | e <;> rw [e] at hy
  all_goals
    simp only [List.mem_cons, List.not_mem_nil, or_false] at hy
    omega

theorem utf8N_lead (c : Nat) (hc : c < 0x110000) : ∃ x r, utf8N c = x :: r ∧
    ((r.length = 0 ∧ x < 0x80) ∨ (r.length = 1 ∧ 0xC0 ≤ x ∧ x < 0xE0) ∨
     (r.length = 2 ∧ 0xE0 ≤ x ∧ x < 0xF0) ∨ (r.length = 3 ∧ 0xF0 ≤ x)) := by
  rcases utf8N_cases c with ⟨h, e⟩ | ⟨h, e⟩ | ⟨h, e⟩ | e
  · exact ⟨_, _, e, Or.inl ⟨rfl, h⟩⟩
  · exact ⟨_, _, e, Or.inr (Or.inl ⟨rfl, Nat.le_add_right .., by omega⟩)⟩
  · exact ⟨_, _, e, Or.inr (Or.inr (Or.inl ⟨rfl, Nat.le_add_right .., by omega⟩))⟩
  · exact ⟨_, _, e, Or.inr (Or.inr (Or.inr ⟨rfl, Nat.le_add_right ..⟩))⟩

theorem utf8Enc_toNat (c : Nat) (hc : c < 0x110000) : (utf8Enc c).map UInt8.toNat = utf8N c := by
  rw [utf8Enc_eq_map, List.map_map]
  refine (List.map_congr_left fun y hy => ?_).trans (List.map_id _)
  show (UInt8.ofNat y).toNat = y
  rw [UInt8.toNat_ofNat', Nat.mod_eq_of_lt (utf8N_lt c hc y hy)]

theorem utf8Enc_inj_lt (c c' : Nat) (hc : c < 0x110000) (hc' : c' < 0x110000)
    (h : utf8Enc c = utf8Enc c') : c = c' := by
  rw [← decN_utf8N c, ← utf8Enc_toNat c hc, h, utf8Enc_toNat c' hc', decN_utf8N]

-- the same lead byte means the same length; a prefix of the same length is the whole
theorem utf8Enc_prefix_free (c c' : Nat) (hc : ValidScalar c) (hc' : ValidScalar c')
    (h : utf8Enc c <+: utf8Enc c') : c = c' := by
  obtain ⟨x, r, e, hl⟩ := utf8N_lead c hc.1
  obtain ⟨x', r', e', hl'⟩ := utf8N_lead c' hc'.1
  have hb := utf8N_lt c hc.1 x (e ▸ List.mem_cons_self)
  have hb' := utf8N_lt c' hc'.1 x' (e' ▸ List.mem_cons_self)
  have hlen : (utf8Enc c).length = (utf8Enc c').length := by
    rw [utf8Enc_eq_map, utf8Enc_eq_map, e, e'] at h ⊢
    have hx := congrArg UInt8.toNat (List.cons_prefix_cons.mp h).1
    rw [UInt8.toNat_ofNat_of_lt' hb, UInt8.toNat_ofNat_of_lt' hb'] at hx
    simp only [List.map_cons, List.length_cons, List.length_map]
    omega
  exact utf8Enc_inj_lt c c' hc.1 hc'.1 (h.eq_of_length hlen)

/-- a continuation byte lies in `0x80 ..= 0xBF`; used as `↓` rewrites so that the full-range positions of a
sequence are settled before `omega` sees them -/
theorem cont_ge (n : Nat) : 128 ≤ (UInt8.ofNat (0x80 + n % 64)).toNat := by
  rw [UInt8.toNat_ofNat']; omega

theorem cont_le (n : Nat) : (UInt8.ofNat (0x80 + n % 64)).toNat ≤ 191 := by
  rw [UInt8.toNat_ofNat']; omega

theorem utf8Enc_matches (c : Nat) (hc : ValidScalar c) :
    ∃ s ∈ utf8Full, SeqMatches (utf8Enc c) s := by
  obtain ⟨h1, h2⟩ := hc
  unfold utf8Enc
  split
  · refine ⟨[(0,127)], by decide, ?_⟩
    simp only [SeqMatches, UInt8.toNat_ofNat', and_true]
    omega
  · split
    · refine ⟨[(194,223),(128,191)], by decide, ?_⟩
      simp only [SeqMatches]
      simp only [↓cont_ge, ↓cont_le, UInt8.toNat_ofNat', and_true]
      omega
    · split
      · by_cases a : c < 0x1000
        · refine ⟨[(224,224),(160,191),(128,191)], by decide, ?_⟩
          simp only [SeqMatches]
          simp only [↓cont_ge, ↓cont_le, UInt8.toNat_ofNat', and_true]
          omega
        · by_cases a2 : c < 0xD000
          · refine ⟨[(225,236),(128,191),(128,191)], by decide, ?_⟩
            simp only [SeqMatches]
            simp only [↓cont_ge, ↓cont_le, UInt8.toNat_ofNat', and_true]
            omega
          · by_cases a3 : c < 0xE000
            · refine ⟨[(237,237),(128,159),(128,191)], by decide, ?_⟩
              simp only [SeqMatches]
              simp only [↓cont_ge, ↓cont_le, UInt8.toNat_ofNat', and_true, true_and]
              omega
            · refine ⟨[(238,239),(128,191),(128,191)], by decide, ?_⟩
              simp only [SeqMatches]
              simp only [↓cont_ge, ↓cont_le, UInt8.toNat_ofNat', and_true]
              omega
      · by_cases a : c < 0x40000
        · refine ⟨[(240,240),(144,191),(128,191),(128,191)], by decide, ?_⟩
          simp only [SeqMatches]
          simp only [↓cont_ge, ↓cont_le, UInt8.toNat_ofNat', and_true]
          omega
        · by_cases a2 : c < 0x100000
          · refine ⟨[(241,243),(128,191),(128,191),(128,191)], by decide, ?_⟩
            simp only [SeqMatches]
            simp only [↓cont_ge, ↓cont_le, UInt8.toNat_ofNat', and_true]
            omega
          · refine ⟨[(244,244),(128,143),(128,191),(128,191)], by decide, ?_⟩
            simp only [SeqMatches]
            simp only [↓cont_ge, ↓cont_le, UInt8.toNat_ofNat', and_true, true_and]
            omega

theorem utf8Full_ok : ∀ s ∈ utf8Full, s ≠ [] ∧ ∀ r ∈ s, r.2 < 256 := by decide

theorem utf8Full_disj : utf8Full.Pairwise leadDisj := by decide

theorem utf8Full_ne_disj : ∀ s ∈ utf8Full, ∀ t ∈ utf8Full, s ≠ t → leadDisj s t := by decide +kernel

theorem utf8Full_match_unique (w : List UInt8) (s t : List (Nat × Nat)) (hs : s ∈ utf8Full)
    (ht : t ∈ utf8Full) (h1 : SeqMatches w s) (h2 : SeqMatches w t) : s = t := by
  cases w with
  | nil =>
    cases s with
    | nil => exact absurd hs (by decide)
    | cons _ _ => simp [SeqMatches] at h1
  | cons x w =>
    apply Classical.byContradiction
    intro hne
    exact (utf8Full_ne_disj s hs t ht hne).not_inLead (seqMatches_inLead x w s h1)
      (seqMatches_inLead x w t h2)

theorem utf8Enc_matches_unique (c : Nat) (hc : ValidScalar c) :
    ∃ s ∈ utf8Full, SeqMatches (utf8Enc c) s ∧
      ∀ t ∈ utf8Full, SeqMatches (utf8Enc c) t → t = s := by
  obtain ⟨s, hs, hm⟩ := utf8Enc_matches c hc
  exact ⟨s, hs, hm, fun t ht hmt => utf8Full_match_unique _ t s ht hs hmt hm⟩

theorem horner_div {a d : Nat} (h : d ≤ 63) : (a * 64 + d) / 64 = a := by
  rw [Nat.add_comm, Nat.add_mul_div_right _ _ (by decide), Nat.div_eq_of_lt (Nat.lt_succ_of_le h),
    Nat.zero_add]

theorem horner_mod {a d : Nat} (h : d ≤ 63) : (a * 64 + d) % 64 = d := by
  rw [Nat.add_comm, Nat.add_mul_mod_self_right, Nat.mod_eq_of_lt (Nat.lt_succ_of_le h)]

/-- one Horner step carries a range of the leading digits to a range of the value; the bounds of a scalar
value come by this from those of its two leading digits, where `omega` is slow on the whole Horner form -/
theorem horner_range {a d lo hi : Nat} (h : lo ≤ a ∧ a < hi) (hd : d ≤ 63) :
    lo * 64 ≤ a * 64 + d ∧ a * 64 + d < hi * 64 := by
  omega

theorem not_below {c k m : Nat} (hk : k ≤ m) (h : m ≤ c) : ¬ c < k :=
  Nat.not_lt_of_le (Nat.le_trans hk h)

/-- a byte is its marker plus a payload -/
theorem byte_split (x : UInt8) (m k : Nat) (h : m ≤ x.toNat ∧ x.toNat ≤ m + k) :
    ∃ a, a ≤ k ∧ x.toNat = m + a :=
  ⟨x.toNat - m, by omega, by omega⟩

-- `dec1` … `dec4`, the converse by length: bytes within the ranges of a sequence of `utf8Full` encode a valid scalar
theorem dec1 (x : UInt8) (hx : x.toNat ≤ 127) : ∃ c, ValidScalar c ∧ utf8Enc c = [x] := by
  refine ⟨x.toNat, ⟨by omega, by omega⟩, ?_⟩
  unfold utf8Enc
  rw [if_pos (by omega), UInt8.ofNat_toNat]

theorem dec2 (x y : UInt8) (hx : 194 ≤ x.toNat ∧ x.toNat ≤ 223) (hy : 128 ≤ y.toNat ∧ y.toNat ≤ 191) :
    ∃ c, ValidScalar c ∧ utf8Enc c = [x, y] := by
  obtain ⟨a, _, ha⟩ := byte_split x 0xC0 31 ⟨by omega, hx.2⟩
  obtain ⟨b, hb', hb⟩ := byte_split y 0x80 63 hy
  have hv := horner_range (show 2 ≤ a ∧ a < 32 by omega) hb'
  refine ⟨a * 64 + b, ⟨Nat.lt_trans hv.2 (by decide),
    fun h => absurd (Nat.lt_of_le_of_lt h.1 hv.2) (by decide)⟩, ?_⟩
  rw [utf8Enc, if_neg (not_below (by decide) hv.1), if_pos hv.2, horner_mod hb', horner_div hb', ← ha, ← hb,
    UInt8.ofNat_toNat, UInt8.ofNat_toNat]

theorem dec3 (x y z : UInt8) (hx : 224 ≤ x.toNat ∧ x.toNat ≤ 239)
    (hy : 128 ≤ y.toNat ∧ y.toNat ≤ 191) (hz : 128 ≤ z.toNat ∧ z.toNat ≤ 191)
    (h224 : x.toNat = 224 → 160 ≤ y.toNat) (h237 : x.toNat = 237 → y.toNat ≤ 159) :
    ∃ c, ValidScalar c ∧ utf8Enc c = [x, y, z] := by
  obtain ⟨a, _, ha⟩ := byte_split x 0xE0 15 hx
  obtain ⟨b, hb', hb⟩ := byte_split y 0x80 63 hy
  obtain ⟨d, hd', hd⟩ := byte_split z 0x80 63 hz
  -- `hv : 32 * 64 ≤ (a * 64 + b) * 64 + d ∧ (a * 64 + b) * 64 + d < 1024 * 64`, the range `0x800 ..< 0x10000`
  have hv := horner_range (show 32 ≤ a * 64 + b ∧ a * 64 + b < 1024 by omega) hd'
  refine ⟨(a * 64 + b) * 64 + d, ⟨Nat.lt_trans hv.2 (by decide), by omega⟩, ?_⟩
  rw [utf8Enc, if_neg, if_neg, if_pos hv.2, div4096, horner_mod hd', horner_div hd', horner_mod hb',
    horner_div hb', ← ha, ← hb, ← hd, UInt8.ofNat_toNat, UInt8.ofNat_toNat, UInt8.ofNat_toNat]
  all_goals exact not_below (by decide) hv.1

theorem dec4 (x y z u : UInt8) (hx : 240 ≤ x.toNat ∧ x.toNat ≤ 244)
    (hy : 128 ≤ y.toNat ∧ y.toNat ≤ 191) (hz : 128 ≤ z.toNat ∧ z.toNat ≤ 191)
    (hu : 128 ≤ u.toNat ∧ u.toNat ≤ 191)
    (h240 : x.toNat = 240 → 144 ≤ y.toNat) (h244 : x.toNat = 244 → y.toNat ≤ 143) :
    ∃ c, ValidScalar c ∧ utf8Enc c = [x, y, z, u] := by
  obtain ⟨a, _, ha⟩ := byte_split x 0xF0 4 hx
  obtain ⟨b, hb', hb⟩ := byte_split y 0x80 63 hy
  obtain ⟨d, hd', hd⟩ := byte_split z 0x80 63 hz
  obtain ⟨e, he', he⟩ := byte_split u 0x80 63 hu
  -- `hv` bounds `((a * 64 + b) * 64 + d) * 64 + e` by `16 * 64 * 64` and `272 * 64 * 64`, the range `0x10000 ..< 0x110000`
  have hv := horner_range (horner_range (show 16 ≤ a * 64 + b ∧ a * 64 + b < 272 by omega) hd') he'
  refine ⟨((a * 64 + b) * 64 + d) * 64 + e, ⟨hv.2, fun h => absurd (Nat.le_trans hv.1 h.2) (by decide)⟩, ?_⟩
  rw [utf8Enc, if_neg, if_neg, if_neg, div262144, div4096, horner_mod he', horner_div he', horner_mod hd',
    horner_div hd', horner_mod hb', horner_div hb', ← ha, ← hb, ← hd, ← he, UInt8.ofNat_toNat,
    UInt8.ofNat_toNat, UInt8.ofNat_toNat, UInt8.ofNat_toNat]
  all_goals exact not_below (by decide) hv.1

theorem utf8Full_matches_enc (w : List UInt8) (s : List (Nat × Nat)) (hs : s ∈ utf8Full)
    (h : SeqMatches w s) : ∃ c, ValidScalar c ∧ utf8Enc c = w := by
  simp only [utf8Full, List.mem_cons, List.not_mem_nil, or_false] at hs
  rcases hs with rfl | rfl | rfl | rfl | rfl | rfl | rfl | rfl | rfl
  · match w, h with
    | [x], h => simp only [SeqMatches, and_true] at h; exact dec1 x h.2
  · match w, h with
    | [x, y], h => simp only [SeqMatches, and_true] at h; exact dec2 x y ⟨h.1, h.2.1⟩ h.2.2
  -- the four sequences of three ranges
  iterate 4
    match w, h with
    | [x, y, z], h =>
      simp only [SeqMatches, and_true] at h
      exact dec3 x y z (by omega) (by omega) (by omega) (by omega) (by omega)
  -- the three sequences of four ranges
  iterate 3
    match w, h with
    | [x, y, z, u], h =>
      simp only [SeqMatches, and_true] at h
      exact dec4 x y z u (by omega) (by omega) (by omega) (by omega) (by omega) (by omega)

end LevDfa
end Fst
