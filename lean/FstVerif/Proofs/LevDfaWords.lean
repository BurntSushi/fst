import FstVerif.Spec.Utf8
/-
Vocabulary shared by the table layer (`LevDfaSeq`) and the UTF-8 layer (`LevDfaUtf8`) of the byte-level
Levenshtein proof (C17): the first range of a range sequence.
-/
namespace Fst
namespace LevDfa
open Spec

/-- the first range of a sequence; of the empty sequence, the empty range `(1, 0)`, so that `inLead [] y` is false -/
def lead (s : List (Nat × Nat)) : Nat × Nat := s.headD (1, 0)

theorem lead_cons (r : Nat × Nat) (rest : List (Nat × Nat)) : lead (r :: rest) = r := rfl

def inLead (s : List (Nat × Nat)) (y : UInt8) : Prop := (lead s).1 ≤ y.toNat ∧ y.toNat ≤ (lead s).2

def leadDisj (s t : List (Nat × Nat)) : Prop := (lead s).2 < (lead t).1 ∨ (lead t).2 < (lead s).1

instance (s t : List (Nat × Nat)) : Decidable (leadDisj s t) := by unfold leadDisj; infer_instance

theorem leadDisj.not_inLead {s t : List (Nat × Nat)} (h : leadDisj s t) {y : UInt8}
    (hs : inLead s y) : ¬ inLead t y := by
  intro ht
  simp only [leadDisj] at h
  simp only [inLead] at hs ht
  omega

theorem seqMatches_inLead (x : UInt8) (w : List UInt8) (s : List (Nat × Nat))
    (h : SeqMatches (x :: w) s) : inLead s x := by
  cases s with
  | nil => simp [SeqMatches] at h
  | cons r rest => exact ⟨h.1, h.2.1⟩

end LevDfa
end Fst
