import FstVerif.Model.Glue
import FstVerif.Model.Lines
import FstVerif.Proofs.Bytes
/-
The lines of the input files of `fst set`: what a line of given content stands for (`lineKey`,
`fileRows` of `Model/Glue.lean`), and `byte_lines` on the BYTES of the files (`Model/Lines.lean`):
reading back what the harness renders gives the keys `lineKey`/`fileRows` promise, except for an
empty unterminated last row, which leaves no byte in the file. Everything about `byteLines` rests
on two equations (`byteLines_line`, `byteLines_last`) and on induction over a list cut at its
newlines (`List.sep_induction`). The lemmas on `lineKey`/`fileRows` are in namespace `Fst.Glue`, those on
`byteLines` in `Fst.Lines`.
-/

/-- every list is a `sep`-free stretch, or a `sep`-free stretch, `sep`, and a list again -/
theorem List.sep_induction {α : Type} (sep : α) {P : List α → Prop}
    (last : ∀ c, sep ∉ c → P c)
    (line : ∀ c rest, sep ∉ c → P rest → P (c ++ sep :: rest)) (l : List α) : P l := by
  suffices h : ∀ c, sep ∉ c → P (c ++ l) from h [] List.not_mem_nil
  induction l with
  | nil => intro c hc; rw [List.append_nil]; exact last c hc
  | cons b l ih =>
    intro c hc
    by_cases hb : b = sep
    · rw [hb]; exact line c l hc (ih [] List.not_mem_nil)
    · have := ih (c ++ [b]) (by simp [hc, Ne.symm hb])
      rwa [List.append_assoc] at this

namespace Fst.Glue
open Fst

/-! ### `lineKey`, `fileRows` -/

theorem lineKey_unterminated (c : Key) : lineKey c false = c := by simp [lineKey]

theorem lineKey_cr (c : Key) : lineKey (c ++ [13]) true = c := by simp [lineKey]

theorem lineKey_no_cr (c : Key) (t : Bool) (h : c.getLast? ≠ some 13) : lineKey c t = c := by
  simp [lineKey, h]

theorem lineKey_cr_cr (c : Key) : lineKey (c ++ [13, 13]) true = c ++ [13] := by simp [lineKey]

theorem lineKey_eq (c : Key) (t : Bool) :
    lineKey c t = if t = true ∧ c.getLast? = some 13 then c.dropLast else c := by
  simp [lineKey]

theorem lineKey_length (c : Key) (t : Bool) : (lineKey c t).length + 1 ≥ c.length := by
  unfold lineKey
  split
  · simp only [List.length_dropLast]; omega
  · omega

theorem lineKey_prefix (c : Key) (t : Bool) : lineKey c t <+: c := by
  unfold lineKey
  split
  · exact List.dropLast_prefix c
  · exact List.prefix_refl c

theorem lineKey_nil (t : Bool) : lineKey [] t = [] := by simp [lineKey]

theorem fileRows_nil (b : Bool) : fileRows b [] = [] := rfl

theorem fileRows_append (b : Bool) (fs gs : List (List (Key × Nat) × Bool)) :
    fileRows b (fs ++ gs) = fileRows b fs ++ fileRows b gs := by
  simp [fileRows]

/-- where no row ends with CR (or the tool is not `set`), every file contributes its rows as they are -/
theorem fileRows_no_cr (b : Bool) (files : List (List (Key × Nat) × Bool))
    (h : b = true → ∀ f ∈ files, ∀ kv ∈ f.1, kv.1.getLast? ≠ some 13) :
    fileRows b files = files.flatMap (·.1) := by
  refine List.flatMap_congr_left fun f hf =>
    (List.map_congr_left ?_).trans (List.zipIdx_map_fst 0 f.1)
  rintro ⟨⟨k, v⟩, i⟩ hp
  cases b with
  | false => rfl
  | true =>
    simp only [if_true]
    rw [lineKey_no_cr k _ (h rfl f hf (k, v) (List.fst_mem_of_mem_zipIdx hp))]

theorem fileRows_map (files : List (List (Key × Nat) × Bool)) :
    fileRows false files = files.flatMap (·.1) :=
  fileRows_no_cr false files (fun h => by cases h)

theorem fileRows_set_cr_free (files : List (List (Key × Nat) × Bool))
    (h : ∀ f ∈ files, ∀ kv ∈ f.1, (13 : UInt8) ∉ kv.1) :
    fileRows true files = files.flatMap (·.1) :=
  fileRows_no_cr true files fun _ f hf kv hkv hlast => h f hf kv hkv (List.mem_of_getLast? hlast)

theorem fileRows_length (b : Bool) (files : List (List (Key × Nat) × Bool)) :
    (fileRows b files).length = (files.map (·.1.length)).sum := by
  simp [fileRows, List.length_flatMap]

/-! examples: "a\r\n" stands for "a"; an unterminated last line "b\r" keeps its CR; the same
file listed twice is read twice; the same two lines in a file that ends with a newline -/
example : lineKey [97, 13] true = [97] := by decide
example : lineKey [97, 13] false = [97, 13] := by decide
example : lineKey [97, 13, 13] true = [97, 13] := by decide
example : lineKey [13, 97] true = [13, 97] := by decide
example : fileRows true [([([97, 13], 0), ([98, 13], 0)], false), ([([97, 13], 0), ([98, 13], 0)], true)] =
    [([97], 0), ([98, 13], 0), ([97], 0), ([98], 0)] := by decide
example : fileRows false [([([97, 13], 5), ([98, 13], 6)], false)] = [([97, 13], 5), ([98, 13], 6)] := by decide
example : fileRows true [([([97], 0), ([98, 13, 99], 0)], true)] = [([97], 0), ([98, 13, 99], 0)] :=
  fileRows_no_cr true _ (fun _ => by decide)

end Fst.Glue

namespace Fst.Lines
open Fst

/-! ### The reader loop -/

/-- a row content without the byte `\n` -/
def NoNL (c : Key) : Prop := (10 : UInt8) ∉ c

instance (c : Key) : Decidable (NoNL c) := by unfold NoNL; infer_instance

theorem go_append (c rest : List UInt8) (acc : Key) (h : NoNL c) :
    byteLinesGo (c ++ rest) acc = byteLinesGo rest (acc ++ c) := by
  induction c generalizing acc with
  | nil => simp
  | cons b c ih =>
    -- `==` on `UInt8` is `decide (_ = _)`; going through `beq_iff_eq` costs an instance search
    have hb : ¬ (b == 10) = true := fun e => h (by simp [of_decide_eq_true e])
    rw [List.cons_append, byteLinesGo, if_neg hb, ih _ (fun e => h (by simp [e]))]
    simp

theorem byteLines_line (c rest : List UInt8) (h : NoNL c) :
    byteLines (c ++ 10 :: rest) = lineKey c true :: byteLines rest := by
  simp [byteLines, go_append c _ [] h, byteLinesGo]

theorem byteLines_last (c : List UInt8) (h : NoNL c) :
    byteLines c = if c = [] then [] else [c] := by
  have := go_append c [] [] h
  rw [List.append_nil, List.nil_append] at this
  rw [byteLines, this]; cases c <;> simp [byteLinesGo]

theorem byteLines_nil : byteLines [] = [] := by decide
theorem byteLines_nl : byteLines [10] = [[]] := by decide
theorem byteLines_crnl : byteLines [13, 10] = [[]] := by decide
theorem byteLines_cr : byteLines [13] = [[13]] := by decide
theorem byteLines_crcrnl : byteLines [97, 13, 13, 10] = [[97, 13]] := by decide

/-! ### Reading back what the harness renders -/

/-- the idiom of `fileRows`: a flag that is `t` on the last element and `true` before -/
theorem zipIdx_map_last {α β : Type} (f : α → Bool → β) (init : List α) (x : α) (t : Bool) :
    (init ++ [x]).zipIdx.map (fun (c, i) => f c (t || i + 1 != (init ++ [x]).length)) =
      init.map (f · true) ++ [f x t] := by
  rw [List.zipIdx_append, List.map_append]
  congr 1
  · conv => rhs; rw [← List.zipIdx_map_fst 0 init, List.map_map]
    apply List.map_congr_left
    rintro ⟨c, i⟩ h
    have hi : i + 1 ≠ init.length + 1 := Nat.ne_of_lt (Nat.succ_lt_succ (List.mem_zipIdx' h).1)
    simp only [List.length_append, List.length_singleton, bne_iff_ne.2 hi, Bool.or_true, Function.comp]
  · simp

theorem renderLines_true (rows : List Key) : renderLines rows true = rows.flatMap (· ++ [10]) := by
  induction rows with
  | nil => rfl
  | cons r rest ih =>
    cases rest with
    | nil => simp [renderLines]
    | cons r' rest => rw [renderLines, ih]; simp

theorem renderLines_concat (init : List Key) (x : Key) (t : Bool) :
    renderLines (init ++ [x]) t = renderLines init true ++ renderLines [x] t := by
  induction init with
  | nil => rfl
  | cons r rest ih =>
    cases rest with
    | nil => simp [renderLines]
    | cons r' rest =>
      simp only [List.cons_append, renderLines] at ih ⊢
      rw [ih]; simp

theorem byteLines_render_append (rows : List Key) (rest : List UInt8)
    (hnl : ∀ r ∈ rows, (10 : UInt8) ∉ r) :
    byteLines (renderLines rows true ++ rest) = rows.map (lineKey · true) ++ byteLines rest := by
  rw [renderLines_true]
  induction rows with
  | nil => rfl
  | cons r rows ih =>
    rw [List.flatMap_cons, List.append_assoc, List.append_assoc, List.singleton_append,
      byteLines_line r _ (hnl r List.mem_cons_self), ih (fun x hx => hnl x (List.mem_cons_of_mem _ hx))]
    rfl

/-- reading back a rendered file gives the keys `lineKey` gives its rows — provided the file is not
rendered with an EMPTY unterminated last row (see `byteLines_render_empty_last`) -/
theorem byteLines_render (rows : List Key) (lastTerminated : Bool)
    (hnl : ∀ r ∈ rows, (10 : UInt8) ∉ r)
    (hlast : lastTerminated = true ∨ rows.getLast? ≠ some []) :
    byteLines (renderLines rows lastTerminated) =
      rows.zipIdx.map (fun (c, i) => lineKey c (lastTerminated || i + 1 != rows.length)) := by
  rcases List.eq_nil_or_concat rows with rfl | ⟨init, x, rfl⟩
  · rfl
  · rw [List.concat_eq_append] at hnl hlast ⊢
    have hx : (10 : UInt8) ∉ x := hnl x (by simp)
    rw [zipIdx_map_last lineKey, renderLines_concat,
      byteLines_render_append init _ (fun r hr => hnl r (by simp [hr]))]
    cases lastTerminated with
    | true => rw [renderLines, if_pos rfl, byteLines_line x [] hx]; rfl
    | false =>
      have hne : x ≠ [] := by simpa using hlast
      rw [renderLines, if_neg (by simp), byteLines_last x hx, if_neg hne, Glue.lineKey_unterminated]

example :
    byteLines (renderLines [[97, 13], [], [13, 13], [98, 13]] false) = [[97], [], [13], [98, 13]] ∧
    byteLines (renderLines [[97, 13], [], [13, 13], [98, 13]] true) = [[97], [], [13], [98]] ∧
    (∀ r ∈ [[97, 13], [], [13, 13], [98, 13]], (10 : UInt8) ∉ r) ∧
    ([[97, 13], [], [13, 13], [98, 13]] : List Key).getLast? ≠ some [] := by decide

/-- the excluded case: an empty unterminated last row leaves no byte in the file, so it is not read back -/
theorem renderLines_empty_last (init : List Key) :
    renderLines (init ++ [[]]) false = renderLines init true := by
  rw [renderLines_concat]; simp [renderLines]

theorem byteLines_render_empty_last (init : List Key) (hnl : ∀ r ∈ init, (10 : UInt8) ∉ r) :
    byteLines (renderLines (init ++ [[]]) false) = init.map (fun c => lineKey c true) := by
  simpa [renderLines_empty_last, byteLines_nil] using byteLines_render_append init [] hnl

/-- the side condition of `byteLines_render` is necessary: in the excluded case the two sides
differ in length -/
theorem byteLines_render_empty_last_ne (init : List Key) (hnl : ∀ r ∈ init, (10 : UInt8) ∉ r) :
    byteLines (renderLines (init ++ [[]]) false) ≠
      (init ++ [[]]).zipIdx.map
        (fun (c, i) => lineKey c (false || i + 1 != (init ++ [[]]).length)) := by
  rw [byteLines_render_empty_last init hnl]
  intro h
  have := congrArg List.length h
  simp at this

example : byteLines (renderLines [[97, 13], []] false) = [[97]] ∧
    byteLines (renderLines [[]] false) = [] := by decide

/-! ### Connection to `fileRows` -/

/-- what can be written to a file and read back: newline-free contents, and no empty
unterminated last row -/
def Renderable (f : List (Key × Nat) × Bool) : Prop :=
  (∀ r ∈ f.1, (10 : UInt8) ∉ r.1) ∧ (f.2 = true ∨ (f.1.map (·.1)).getLast? ≠ some [])

/-- `fileRows true` is what the tool reads, with one `byte_lines` reader per file -/
theorem concatFilesLines_render (files : List (List (Key × Nat) × Bool))
    (h : ∀ f ∈ files, Renderable f) :
    concatFilesLines (files.map fun (rows, t) => renderLines (rows.map (·.1)) t) =
      (fileRows true files).map (·.1) := by
  rw [fileRows, List.map_flatMap, concatFilesLines, List.flatMap_map]
  refine List.flatMap_congr_left fun (rows, t) hf => ?_
  refine (byteLines_render _ t (List.forall_mem_map.mpr (h _ hf).1) (h _ hf).2).trans ?_
  simp only [List.zipIdx_map, List.map_map, List.length_map]
  exact List.map_congr_left fun ((c, v), i) _ => rfl

example :
    let files : List (List (Key × Nat) × Bool) :=
      [([([98, 13], 0), ([97], 0)], false), ([], true), ([([99, 13], 0), ([], 0)], true)]
    (∀ f ∈ files, Renderable f) ∧
    concatFilesLines (files.map fun (rows, t) => renderLines (rows.map (·.1)) t) =
      [[98], [97], [99], []] := by
  refine ⟨?_, by decide⟩
  intro f hf
  simp only [List.mem_cons, List.not_mem_nil, or_false] at hf
  rcases hf with rfl | rfl | rfl <;> (unfold Renderable; decide)

/-! ### Concatenating files -/

/-- whether the input is empty or ends with a newline is decided behind its first line -/
theorem terminated_line (c rest : List UInt8) :
    (c ++ 10 :: rest = [] ∨ (c ++ 10 :: rest).getLast? = some 10) ↔
      (rest = [] ∨ rest.getLast? = some 10) := by
  cases rest with
  | nil => simp
  | cons x xs => simp [List.getLast?_cons_cons]

/-- files that end with a newline can be concatenated -/
theorem byteLines_append_terminated (a b : List UInt8)
    (h : a = [] ∨ a.getLast? = some 10) :
    byteLines (a ++ b) = byteLines a ++ byteLines b := by
  induction a using List.sep_induction (10 : UInt8) with
  | last c hc => rw [h.resolve_right fun e => hc (List.mem_of_getLast? e)]; rfl
  | line c rest hc ih =>
    rw [List.append_assoc, List.cons_append, byteLines_line c _ hc, byteLines_line c _ hc,
      ih ((terminated_line c rest).mp h)]; rfl

example : byteLines ([97, 10] ++ [98]) = byteLines [97, 10] ++ byteLines [98] ∧
    ([97, 10] : List UInt8).getLast? = some 10 := by decide

/-- without the hypothesis the last line of `a` merges with the first line of `b`: chaining the
readers of two files instead of one reader per file turns the keys `a`, `b` into one key `ab` -/
example : byteLines ([97] ++ [98, 10]) = [[97, 98]] ∧
    byteLines [97] ++ byteLines [98, 10] = [[97], [98]] ∧
    concatFilesLines [[97], [98, 10]] = [[97], [98]] := by decide

/-- in general: an unterminated newline-free last line `c` of the first file merges with the
first line of the second -/
theorem byteLines_append_unterminated (a c d rest : List UInt8) (ha : a = [] ∨ a.getLast? = some 10)
    (hc : (10 : UInt8) ∉ c) (hd : (10 : UInt8) ∉ d) :
    byteLines ((a ++ c) ++ (d ++ 10 :: rest)) =
      byteLines a ++ lineKey (c ++ d) true :: byteLines rest := by
  rw [List.append_assoc, byteLines_append_terminated a _ ha, ← List.append_assoc,
    byteLines_line (c ++ d) rest (by simp [NoNL, hc, hd])]

/-- `ConcatLines` over several files is `byte_lines` of the concatenated bytes when every file
ends with a newline (or is empty) -/
theorem concatFilesLines_flatten (files : List (List UInt8))
    (h : ∀ f ∈ files, f = [] ∨ f.getLast? = some 10) :
    concatFilesLines files = byteLines files.flatten := by
  induction files with
  | nil => rfl
  | cons f files ih =>
    rw [List.flatten_cons, byteLines_append_terminated f _ (h f List.mem_cons_self),
      ← ih (fun g hg => h g (List.mem_cons_of_mem _ hg))]
    rfl

/-! ### Contents and counts -/

theorem byteLines_noNL (bs : List UInt8) : ∀ l ∈ byteLines bs, (10 : UInt8) ∉ l := by
  induction bs using List.sep_induction (10 : UInt8) with
  | last c hc =>
    rw [byteLines_last c hc]; split
    · simp
    · simpa using hc
  | line c rest hc ih =>
    rw [byteLines_line c rest hc]
    intro l hl
    rcases List.mem_cons.mp hl with rfl | hl
    · exact fun hm => hc ((Glue.lineKey_prefix c true).subset hm)
    · exact ih l hl

theorem byteLines_length_sum (bs : List UInt8) :
    ((byteLines bs).map List.length).sum ≤ bs.length := by
  induction bs using List.sep_induction (10 : UInt8) with
  | last c hc => rw [byteLines_last c hc]; split <;> simp
  | line c rest hc ih =>
    have := (Glue.lineKey_prefix c true).length_le
    rw [byteLines_line c rest hc]
    simp only [List.map_cons, List.sum_cons, List.length_append, List.length_cons]
    omega

/-- the number of lines is the number of `\n` bytes, plus one if the input is non-empty and does
not end with `\n` -/
theorem byteLines_length (bs : List UInt8) :
    (byteLines bs).length =
      bs.count 10 + (if bs ≠ [] ∧ bs.getLast? ≠ some 10 then 1 else 0) := by
  -- named once: the search for this instance is slow, and `List.count_eq_zero` asks for it twice
  have : LawfulBEq UInt8 := instLawfulBEq
  induction bs using List.sep_induction (10 : UInt8) with
  | last c hc =>
    rw [byteLines_last c hc, List.count_eq_zero.mpr hc]
    by_cases h : c = []
    · subst h; rfl
    · rw [if_neg h, if_pos ⟨h, fun e => hc (List.mem_of_getLast? e)⟩]; rfl
  | line c rest hc ih =>
    rw [byteLines_line c rest hc, List.length_cons, ih, List.count_append, List.count_cons_self,
      List.count_eq_zero.mpr hc]
    simp only [← not_or, terminated_line]
    omega

example : (byteLines [97, 10, 10, 98]).length = 3 ∧ (byteLines [97, 10, 10]).length = 2 := by decide

/-! ### Lines longer than any buffer -/

theorem byteLines_long_line_unterminated (n : Nat) (h : 0 < n) :
    byteLines (List.replicate n 76) = [List.replicate n 76] := by
  rw [byteLines_last _ (by simp [NoNL]), if_neg (by simp; omega)]

theorem byteLines_long_line_crlf (n : Nat) (before rest : List UInt8)
    (hb : before = [] ∨ before.getLast? = some 10) :
    byteLines (before ++ (List.replicate n 76 ++ [13]) ++ 10 :: rest) =
      byteLines before ++ List.replicate n 76 :: byteLines rest := by
  rw [List.append_assoc, byteLines_append_terminated before _ hb,
    byteLines_line _ rest (by simp [NoNL]), Glue.lineKey_cr]

example : byteLines (List.replicate 5 76 ++ [10]) = [[76, 76, 76, 76, 76]] := by decide

end Fst.Lines
