import FstVerif.Model.Merge
import FstVerif.Proofs.Den
import FstVerif.Proofs.Ops
/-
C19: the result of `fst-bin/src/merge.rs` (`Merger::merge`, model `mergeAll`) is the
specification `Spec.merged m rows` — one entry per distinct key, keys ascending, value
= merge of all values given for the key — for every batch size, every group size
`fd_limit ≥ 2` and every order in which a generation's results are collected.

`KvBatch` writes `Spec.merged` of its rows (`kvBatch_spec`); `UnionBatch` over key-ascending
streams writes `Spec.merged` of all their entries (`unionBatch_flatten`, from `C05_union` of
Proofs/Ops.lean); `Spec.merged` is a homomorphism from concatenation to the key-wise merge
(`merged_flatten_merged`) and depends only on the multiset of rows (`merged_perm`). The main theorem
is `C19_result_final`; `C19_result`, `C19_result'`, `C19_independent` state the same under hypotheses
(`UnionSpecV` / `UnionSpec` on `Union`, `1 ≤ batchSize`) that `C19_result_final` shows unnecessary.
-/
namespace Fst
namespace MergeProofs

theorem u8_lt_irrefl (x : UInt8) : ¬ x < x := UInt8.lt_irrefl x

theorem op_comm (m : MergeMode) (x y : Nat) : m.op x y = m.op y x := by
  cases m <;> simp [MergeMode.op, Nat.add_comm, Nat.max_comm, Nat.min_comm]

theorem op_assoc (m : MergeMode) (x y z : Nat) : m.op (m.op x y) z = m.op x (m.op y z) := by
  cases m <;> simp only [MergeMode.op, Nat.add_assoc, Nat.max_assoc, Nat.min_assoc]

theorem foldl_perm (m : MergeMode) {l1 l2 : List Nat} (h : l1.Perm l2) (a : Nat) :
    l1.foldl m.op a = l2.foldl m.op a :=
  h.foldl_eq' (fun x _ y _ z => by rw [op_assoc, op_comm m x y, ← op_assoc]) a

theorem fold_perm (m : MergeMode) {l1 l2 : List Nat} (h : l1.Perm l2) : m.fold l1 = m.fold l2 := by
  induction h with
  | nil => rfl
  | cons x h _ => simp only [MergeMode.fold]; split; rfl; exact foldl_perm m h x
  | swap x y l => simp only [MergeMode.fold, List.foldl_cons]; split; rfl; rw [op_comm]
  | trans _ _ ih1 ih2 => rw [ih1, ih2]

theorem fold_set (l : List Nat) : MergeMode.fold .set l = 0 := by
  cases l <;> simp [MergeMode.fold]

/-- merging a part first and then the rest is merging everything -/
theorem fold_fold_append (m : MergeMode) (a b : List Nat) (ha : a ≠ []) :
    m.fold (m.fold a :: b) = m.fold (a ++ b) := by
  cases a with
  | nil => contradiction
  | cons x a =>
    by_cases hm : m = .set
    · subst hm; rw [fold_set, fold_set]
    · simp only [MergeMode.fold, hm, if_false, List.cons_append, List.foldl_append]

/-- all values given for key `k`, in row order -/
def valuesOf (rows : List (Key × Nat)) (k : Key) : List Nat :=
  (rows.filter (·.1 == k)).map (·.2)

def Canon (l : KV) : Prop := l.Pairwise fun a b => lexLt a.1 b.1 = true

-- the same function as `Ops.insertKey` (`insertKey_eq`)
def insertKey (k : Key) : List Key → List Key
  | [] => [k]
  | x :: xs =>
    if lexLt k x then k :: x :: xs
    else if k == x then x :: xs
    else x :: insertKey k xs

/-- the distinct keys of the rows, ascending -/
def Spec.keys (rows : List (Key × Nat)) : List Key := (rows.map (·.1)).foldr insertKey []

/-- specification of `fst map` (sum, max, min) and `fst set` on unsorted input: one entry
per distinct key, keys ascending, the value is the merge of all values given for the key. -/
def Spec.merged (m : MergeMode) (rows : List (Key × Nat)) : KV :=
  (Spec.keys rows).map fun k => (k, m.fold (valuesOf rows k))

theorem merged_nil (m : MergeMode) : Spec.merged m [] = [] := rfl

theorem insertKey_eq (k : Key) : ∀ l : List Key, insertKey k l = Ops.insertKey k l
  | [] => rfl
  | x :: xs => by simp only [insertKey, Ops.insertKey, insertKey_eq k xs]

theorem keys_eq (rows : List (Key × Nat)) : Spec.keys rows = Ops.allKeys [rows] := by
  have : insertKey = Ops.insertKey := funext fun k => funext (insertKey_eq k)
  simp [Spec.keys, Ops.allKeys, this]

theorem mem_keys (rows : List (Key × Nat)) (k : Key) :
    k ∈ Spec.keys rows ↔ k ∈ rows.map (·.1) := by
  rw [keys_eq, Ops.mem_allKeys, Ops.hasKey_one, Ops.keyOf_iff_mem]

theorem keys_sorted (rows : List (Key × Nat)) :
    (Spec.keys rows).Pairwise fun a b => lexLt a b = true := by
  rw [keys_eq]; exact Ops.sorted_allKeys _

theorem merged_canon (m : MergeMode) (rows : List (Key × Nat)) : Canon (Spec.merged m rows) := by
  unfold Canon Spec.merged
  rw [List.pairwise_map]
  exact keys_sorted rows

theorem mem_merged (m : MergeMode) (rows : List (Key × Nat)) (k : Key) (v : Nat) :
    (k, v) ∈ Spec.merged m rows ↔ k ∈ rows.map (·.1) ∧ v = m.fold (valuesOf rows k) := by
  rw [← mem_keys]
  simp only [Spec.merged, List.mem_map, Prod.mk.injEq]
  exact ⟨fun ⟨a, ha, e1, e2⟩ => e1 ▸ ⟨ha, e2.symm⟩, fun ⟨hk, e⟩ => ⟨k, hk, rfl, e.symm⟩⟩

/-- the specification is determined by membership -/
theorem merged_unique (m : MergeMode) (rows : List (Key × Nat)) (out : KV) (hc : Canon out)
    (h : ∀ k v, (k, v) ∈ out ↔ k ∈ rows.map (·.1) ∧ v = m.fold (valuesOf rows k)) :
    out = Spec.merged m rows :=
  pairwise_ext (fun x y hxy hyx => by rw [lexLt_asymm hxy] at hyx; cases hyx) hc
    (merged_canon m rows) fun x => by
    obtain ⟨k, v⟩ := x
    rw [h, mem_merged]

/-- the specification depends only on the multiset of rows -/
theorem merged_perm (m : MergeMode) {r1 r2 : List (Key × Nat)} (h : r1.Perm r2) :
    Spec.merged m r1 = Spec.merged m r2 :=
  merged_unique m r2 _ (merged_canon m r1) fun k v => by
    rw [mem_merged, fold_perm m (l1 := valuesOf r1 k) (l2 := valuesOf r2 k) ((h.filter _).map _)]
    constructor
    · rintro ⟨h1, h2⟩; exact ⟨(h.map _).mem_iff.mp h1, h2⟩
    · rintro ⟨h1, h2⟩; exact ⟨(h.map _).mem_iff.mpr h1, h2⟩

theorem valuesOf_append (a b : List (Key × Nat)) (k : Key) :
    valuesOf (a ++ b) k = valuesOf a k ++ valuesOf b k := by
  simp [valuesOf]

theorem valuesOf_ne_nil (rows : List (Key × Nat)) (k : Key) :
    valuesOf rows k ≠ [] ↔ k ∈ rows.map (·.1) := by
  simp only [valuesOf, ne_eq, List.map_eq_nil_iff, List.filter_eq_nil_iff, Ops.key_beq,
    Classical.not_forall, Classical.not_not, List.mem_map]
  constructor
  · rintro ⟨r, hr, e⟩; exact ⟨r, hr, e⟩
  · rintro ⟨r, hr, e⟩; exact ⟨r, hr, e⟩

/-- keys ascending, not necessarily strictly -/
def KSorted (l : List (Key × Nat)) : Prop := l.Pairwise fun a b => lexLe a.1 b.1 = true

theorem insertRow_perm (r : Key × Nat) (l : List (Key × Nat)) : (insertRow r l).Perm (r :: l) := by
  induction l with
  | nil => exact List.Perm.refl _
  | cons x xs ih =>
    simp only [insertRow]
    split
    · exact List.Perm.refl _
    · exact ((List.Perm.cons x ih).trans (List.Perm.swap r x xs))

theorem sortRows_perm (rows : List (Key × Nat)) : (sortRows rows).Perm rows := by
  induction rows with
  | nil => exact List.Perm.refl _
  | cons r rows ih => exact (insertRow_perm r _).trans (List.Perm.cons r ih)

theorem insertRow_sorted (r : Key × Nat) (l : List (Key × Nat)) (h : KSorted l) :
    KSorted (insertRow r l) := by
  induction l with
  | nil => exact List.pairwise_singleton _ _
  | cons x xs ih =>
    unfold KSorted at h ih ⊢
    rw [List.pairwise_cons] at h
    simp only [insertRow]
    split
    · rename_i hc
      have hrx : lexLe r.1 x.1 = true := by
        rw [Bool.or_eq_true, Bool.and_eq_true] at hc
        exact lexLe_iff.2 (hc.imp id fun e => Ops.key_beq.1 e.1)
      exact List.pairwise_cons.2 ⟨fun y hy => (List.mem_cons.1 hy).elim (· ▸ hrx)
        fun hy => Fst.lexLe_trans hrx (h.1 y hy), List.pairwise_cons.2 h⟩
    · rename_i hc
      have hxr : lexLe x.1 r.1 = true := by
        rw [lexLe, Bool.not_eq_true']
        exact Bool.eq_false_iff.2 fun hlt => hc (by simp [hlt])
      exact List.pairwise_cons.2 ⟨fun y hy =>
        (List.mem_cons.1 ((insertRow_perm r xs).mem_iff.1 hy)).elim (· ▸ hxr) (h.1 y), ih h.2⟩

theorem sortRows_sorted (rows : List (Key × Nat)) : KSorted (sortRows rows) := by
  induction rows with
  | nil => exact List.Pairwise.nil
  | cons r rows ih => exact insertRow_sorted r _ ih

/-- `groupMerge` only ever touches the newest group: the older ones are written as they are -/
theorem groupMerge_acc (m : MergeMode) (rest : List (Key × Nat)) (g : Key × List Nat)
    (acc : List (Key × List Nat)) :
    groupMerge m rest (g :: acc) = groupMerge m [] acc ++ groupMerge m rest [g] := by
  induction rest generalizing g acc with
  | nil => simp [groupMerge]
  | cons r rest ih =>
    obtain ⟨k, v⟩ := r
    obtain ⟨k', vs⟩ := g
    simp only [groupMerge]
    split
    · exact ih ..
    · rw [ih, ih (acc := [_]), ← List.append_assoc]
      simp [groupMerge]

theorem valuesOf_group (k' k : Key) (vs : List Nat) :
    valuesOf (vs.map fun v => (k', v)) k = if k' = k then vs else [] := by
  simp only [valuesOf, List.filter_map, Function.comp_def, ← Ops.key_beq]
  cases k' == k <;> simp [Function.comp_def]

/-- a group of rows whose key is below all others comes first -/
theorem merged_group_append (m : MergeMode) (k : Key) (vs : List Nat) (hvs : vs ≠ [])
    (R : List (Key × Nat)) (hR : ∀ r ∈ R, lexLt k r.1 = true) :
    Spec.merged m (vs.map (fun v => (k, v)) ++ R) = (k, m.fold vs) :: Spec.merged m R := by
  have hkR : k ∉ R.map (·.1) := fun h => by
    obtain ⟨r, hr, e⟩ := List.mem_map.1 h
    exact lexLt_ne (hR r hr) e.symm
  have hk : valuesOf R k = [] := Decidable.not_not.1 (mt (valuesOf_ne_nil R k).1 hkR)
  have hG : ∀ k', k' ∈ (vs.map fun v => (k, v)).map (·.1) ↔ k' = k := fun k' => by
    obtain ⟨v, hv⟩ := List.exists_mem_of_ne_nil vs hvs
    simp only [List.map_map, List.mem_map, Function.comp_apply]
    exact ⟨fun ⟨_, _, e⟩ => e.symm, fun e => ⟨v, hv, e.symm⟩⟩
  refine (merged_unique m _ _ (List.pairwise_cons.2 ⟨fun y hy => ?_, merged_canon m R⟩)
    fun k' x => ?_).symm
  · obtain ⟨r, hr, e⟩ := List.mem_map.1 ((mem_merged m R y.1 y.2).1 hy).1
    exact e ▸ hR r hr
  · rw [List.mem_cons, mem_merged, valuesOf_append, valuesOf_group, List.map_append,
      List.mem_append, hG, Prod.mk.injEq]
    by_cases e : k' = k
    · subst e; simp only [hk, hkR, if_true, false_and, or_false, true_and, List.append_nil]
    · simp only [e, Ne.symm e, false_and, false_or, if_false, List.nil_append]

/-- the rows a single open group `(k, vs)` stands for, followed by the rows still to come -/
theorem groupMerge_one (m : MergeMode) : ∀ (rest : List (Key × Nat)) (k : Key) (vs : List Nat),
    vs ≠ [] → KSorted rest → (∀ r ∈ rest, lexLe k r.1 = true) →
    groupMerge m rest [(k, vs)] = Spec.merged m (vs.reverse.map (fun v => (k, v)) ++ rest) := by
  intro rest
  induction rest with
  | nil =>
    intro k vs hvs _ _
    exact (merged_group_append m k vs.reverse (mt List.reverse_eq_nil_iff.1 hvs) []
      fun _ h => nomatch h).symm
  | cons r rest ih =>
    intro k vs hvs hs hk
    obtain ⟨k', v⟩ := r
    have hs' := List.pairwise_cons.1 hs
    simp only [groupMerge]
    split
    · rename_i e
      obtain rfl := Ops.key_beq.1 e
      rw [ih k' (v :: vs) (by simp) hs'.2 fun r hr => hk r (List.mem_cons_of_mem _ hr)]
      simp
    · rename_i e
      have hlt : lexLt k k' = true :=
        (lexLe_iff.1 (hk _ (List.mem_cons_self ..))).resolve_right fun h => e (Ops.key_beq.2 h.symm)
      rw [groupMerge_acc, ih k' [v] (by simp) hs'.2 hs'.1,
        merged_group_append m k vs.reverse (mt List.reverse_eq_nil_iff.1 hvs) _ fun r hr =>
          (List.mem_cons.1 hr).elim (· ▸ hlt) fun hr => lexLt_of_lt_of_le hlt (hs'.1 r hr)]
      simp [groupMerge]

theorem kvBatch_spec (m : MergeMode) (rows : List (Key × Nat)) :
    kvBatch m rows = Spec.merged m rows := by
  rw [← merged_perm m (sortRows_perm rows), kvBatch]
  have hs := sortRows_sorted rows
  cases h : sortRows rows with
  | nil => rfl
  | cons r rest =>
    rw [h] at hs
    have hs' := List.pairwise_cons.1 hs
    simpa [groupMerge] using groupMerge_one m rest r.1 [r.2] (by simp) hs'.2 hs'.1

/-- all `(index, value)` occurrences of key `k` in the streams, by stream index -/
def occ (streams : List KV) (k : Key) : List IndexedValue :=
  streams.zipIdx.flatMap fun si => (si.1.filter (·.1 == k)).map fun kv => ⟨si.2, kv.2⟩

/-- What `Union` yields over key-ascending streams: every key once, ascending, with the
`(index, value)` occurrences of that key in some order. -/
def UnionSpec : Prop :=
  ∀ streams : List KV, (∀ s ∈ streams, Canon s) →
    ∃ out, opCollect popMin .union streams = some out ∧
      (out.map (·.1)).Pairwise (fun a b => lexLt a b = true) ∧
      (∀ k, k ∈ out.map (·.1) ↔ ∃ s ∈ streams, k ∈ s.map (·.1)) ∧
      ∀ k outs, (k, outs) ∈ out → outs.Perm (occ streams k)

/-- the part of `UnionSpec` the merge needs: only the values matter -/
def UnionSpecV : Prop :=
  ∀ streams : List KV, (∀ s ∈ streams, Canon s) →
    ∃ out, opCollect popMin .union streams = some out ∧
      (out.map (·.1)).Pairwise (fun a b => lexLt a b = true) ∧
      (∀ k, k ∈ out.map (·.1) ↔ ∃ s ∈ streams, k ∈ s.map (·.1)) ∧
      ∀ k outs, (k, outs) ∈ out →
        (outs.map (·.value)).Perm (streams.flatMap (valuesOf · k))

theorem valuesOf_merged (m : MergeMode) (R : List (Key × Nat)) (k : Key) :
    valuesOf (Spec.merged m R) k =
      if valuesOf R k = [] then [] else [m.fold (valuesOf R k)] := by
  have hf : valuesOf (Spec.merged m R) k =
      ((Spec.keys R).filter (· == k)).map fun k => m.fold (valuesOf R k) := by
    unfold valuesOf Spec.merged
    rw [List.filter_map, List.map_map]
    rfl
  have := Ops.key_lawful  -- named: the search for the instance is slow
  rw [hf, filter_beq_of_nodup (Ops.nodup_of_sortedK (keys_sorted R))]
  by_cases hk : valuesOf R k = []
  · rw [if_pos hk, if_neg fun h => (valuesOf_ne_nil R k).mpr ((mem_keys R k).mp h) hk]; rfl
  · rw [if_neg hk, if_pos ((mem_keys R k).mpr ((valuesOf_ne_nil R k).mp hk))]; rfl

theorem valuesOf_flatten (Rs : List (List (Key × Nat))) (k : Key) :
    valuesOf Rs.flatten k = (Rs.map (valuesOf · k)).flatten := by
  induction Rs with
  | nil => rfl
  | cons R Rs ih => rw [List.flatten_cons, valuesOf_append, ih]; rfl

/-- from `C05_union`: both sides list `allKeys fsts`, and the values agree up to order -/
theorem unionBatch_flatten (m : MergeMode) (fsts : List KV) (hc : ∀ s ∈ fsts, Canon s) :
    unionBatch m fsts = Spec.merged m fsts.flatten := by
  obtain ⟨out, ho, hkeys, hocc⟩ := C05_union popMin Ops.popSpec_popMin fsts
    (fun l hl => sortedKV_iff_pairwise.2 (hc l hl))
  simp only [unionBatch, ho]
  unfold Spec.merged
  have hk : Spec.keys fsts.flatten = Ops.allKeys fsts := by rw [keys_eq]; simp [Ops.allKeys]
  rw [hk, ← hkeys, List.map_map]
  apply List.map_congr_left
  rintro ⟨k, outs⟩ hm
  simp only [Function.comp, Prod.mk.injEq, true_and]
  rw [fold_perm m ((hocc k outs hm).map (·.value)), Ops.occ_values, valuesOf_flatten,
    List.flatMap_def]
  rfl

/-- merging a part first changes nothing -/
theorem merged_append_left (m : MergeMode) (A B : List (Key × Nat)) :
    Spec.merged m (Spec.merged m A ++ B) = Spec.merged m (A ++ B) := by
  have hk : Spec.keys (Spec.merged m A ++ B) = Spec.keys (A ++ B) := by
    refine Ops.sortedK_ext (keys_sorted _) (keys_sorted _) fun k => ?_
    have : (Spec.merged m A).map (·.1) = Spec.keys A := by simp [Spec.merged, Function.comp_def]
    rw [mem_keys, mem_keys, List.map_append, List.map_append, List.mem_append, List.mem_append,
      this, mem_keys]
  show (Spec.keys _).map _ = (Spec.keys _).map _
  rw [hk]
  apply List.map_congr_left
  intro k _
  rw [valuesOf_append, valuesOf_append, valuesOf_merged]
  split
  · rename_i h; rw [h]
  · rename_i h; exact congrArg _ (fold_fold_append m _ _ h)

/-- `Spec.merged` is a homomorphism from concatenation of row lists to the key-wise merge -/
theorem merged_flatten_merged (m : MergeMode) (Rs : List (List (Key × Nat))) :
    Spec.merged m (Rs.map (Spec.merged m)).flatten = Spec.merged m Rs.flatten := by
  induction Rs with
  | nil => rfl
  | cons R Rs ih =>
    -- `merged_append_left` only merges the left part: drop the head's inner merge, swap the
    -- tail to the left to apply `ih` under one, and swap back
    rw [List.map_cons, List.flatten_cons, List.flatten_cons, merged_append_left,
      merged_perm m List.perm_append_comm, ← merged_append_left, ih, merged_append_left,
      merged_perm m List.perm_append_comm]

theorem batches_step {α : Type} (n fuel : Nat) (x : α) (xs : List α) :
    batches n (fuel+1) (x :: xs) =
      (x :: xs).take (max n 1) :: batches n fuel ((x :: xs).drop (max n 1)) := by
  simp [batches]

theorem batches_nil {α : Type} (n fuel : Nat) : batches n fuel ([] : List α) = [] := by
  cases fuel <;> simp [batches]

/-- the chunks are consecutive pieces of the input (every batch size, 0 included) -/
theorem batches_flatten {α : Type} (n : Nat) : ∀ (fuel : Nat) (xs : List α), xs.length < fuel →
    (batches n fuel xs).flatten = xs := by
  intro fuel
  induction fuel with
  | zero => simp
  | succ fuel ih =>
    intro xs h
    cases xs with
    | nil => rw [batches_nil]; rfl
    | cons x xs =>
      rw [batches_step, List.flatten_cons, ih _ ?_, List.take_append_drop]
      -- what is left is a sublist of `drop 1 (x :: xs) = xs`; `omega` over `max` and `-` is slow
      exact Nat.lt_of_le_of_lt (List.drop_sublist_drop_left _ (Nat.le_max_right n 1)).length_le
        (Nat.lt_of_succ_lt_succ h)

theorem batches_nonempty {α : Type} (n : Nat) : ∀ (fuel : Nat) (xs : List α),
    ∀ c ∈ batches n fuel xs, c ≠ [] := by
  intro fuel
  induction fuel with
  | zero => intro xs c h; cases h
  | succ fuel ih =>
    intro xs c h
    cases xs with
    | nil => rw [batches_nil] at h; cases h
    | cons x xs =>
      rw [batches_step] at h
      rcases List.mem_cons.mp h with rfl | h
      · obtain ⟨k, hk⟩ := Nat.exists_eq_add_one.2 (Nat.le_max_right n 1)
        rw [hk]; simp
      · exact ih _ c h

theorem batches_length_le {α : Type} (n : Nat) : ∀ (fuel : Nat) (xs : List α),
    (batches n fuel xs).length ≤ xs.length := by
  intro fuel
  induction fuel with
  | zero => exact fun _ => Nat.zero_le _
  | succ fuel ih =>
    intro xs
    cases xs with
    | nil => rw [batches_nil]; simp
    | cons x xs =>
      rw [batches_step]
      -- as in `batches_flatten`: what is left is a sublist of `drop 1 (x :: xs) = xs`
      have hd : (List.drop (max n 1) (x :: xs)).length ≤ xs.length :=
        (List.drop_sublist_drop_left _ (Nat.le_max_right n 1)).length_le
      exact Nat.succ_le_succ (Nat.le_trans (ih _) hd)

/-- with a group size of at least two, a generation has fewer results than its input -/
theorem batches_length_lt {α : Type} (n : Nat) (hn : 2 ≤ n) (fuel : Nat) (xs : List α)
    (hx : 2 ≤ xs.length) : (batches n fuel xs).length < xs.length := by
  cases fuel with
  | zero => simp [batches]; omega
  | succ fuel =>
    cases xs with
    | nil => simp at hx
    | cons x xs =>
      rw [batches_step]
      have := batches_length_le n fuel (List.drop (max n 1) (x :: xs))
      simp only [List.length_cons, List.length_drop] at *
      omega

theorem batches_le_one_length {α : Type} (n : Nat) (hn : n ≤ 1) : ∀ (fuel : Nat) (xs : List α),
    xs.length < fuel → (batches n fuel xs).length = xs.length := by
  intro fuel
  induction fuel with
  | zero => simp
  | succ fuel ih =>
    intro xs h
    cases xs with
    | nil => rw [batches_nil]; rfl
    | cons x xs =>
      rw [batches_step, Nat.max_eq_right hn]
      simp [ih xs (Nat.lt_of_succ_lt_succ h)]

theorem mergeGens_nil (m : MergeMode) (fd : Nat) (sched : Nat → List KV → List KV)
    (fuel g : Nat) : mergeGens m fd sched fuel g [] = some [] := by
  cases fuel <;> rfl

theorem mergeGens_single (m : MergeMode) (fd : Nat) (sched : Nat → List KV → List KV)
    (fuel g : Nat) (r : KV) : mergeGens m fd sched fuel g [r] = some r := by
  cases fuel <;> rfl

theorem mergeGens_step (m : MergeMode) (fd : Nat) (sched : Nat → List KV → List KV)
    (fuel g : Nat) (a b : KV) (rest : List KV) :
    mergeGens m fd sched (fuel+1) g (a :: b :: rest) =
      mergeGens m fd sched fuel (g + 1)
        (sched (g + 1) ((batches fd ((a :: b :: rest).length + 1) (a :: b :: rest)).map
          (unionBatch m))) := rfl

theorem mem_of_mem_batches {α : Type} {n fuel : Nat} {xs c : List α} {x : α} (hf : xs.length < fuel)
    (hc : c ∈ batches n fuel xs) (hx : x ∈ c) : x ∈ xs := by
  rw [← batches_flatten n fuel xs hf]
  exact List.mem_flatten.mpr ⟨c, hc, hx⟩

/-- What the generations keep about the list of results: every result is in normal form (a fixed
point of `Spec.merged`), and together they still specify the rows. Neither depends on the order of
the results, which is all a schedule can change. -/
theorem inv_of_perm (m : MergeMode) {results : List KV} {Rs : List (List (Key × Nat))}
    (h : results.Perm (Rs.map (Spec.merged m))) :
    (∀ r ∈ results, Spec.merged m r = r) ∧
      Spec.merged m results.flatten = Spec.merged m Rs.flatten :=
  ⟨fun r hr => by
    obtain ⟨R, _, rfl⟩ := List.mem_map.mp (h.mem_iff.mp hr)
    simpa using merged_append_left m R [],
   by rw [merged_perm m h.flatten, merged_flatten_merged]⟩

theorem mergeGens_spec (m : MergeMode) (fd : Nat) (hfd : 2 ≤ fd)
    (sched : Nat → List KV → List KV) (hsched : ∀ g xs, (sched g xs).Perm xs)
    (rows : List (Key × Nat)) :
    ∀ (fuel g : Nat) (results : List KV), (∀ r ∈ results, Spec.merged m r = r) →
      Spec.merged m results.flatten = Spec.merged m rows → results.length ≤ fuel →
      mergeGens m fd sched fuel g results = some (Spec.merged m rows) := by
  intro fuel
  induction fuel with
  | zero =>
    intro g results _ h2 hl
    have : results = [] := List.length_eq_zero_iff.mp (Nat.le_zero.mp hl)
    subst this
    rw [← h2]; rfl
  | succ fuel ih =>
    intro g results h1 h2 hl
    rcases results with _ | ⟨a, _ | ⟨b, rest⟩⟩
    · rw [← h2]; exact mergeGens_nil ..
    · rw [mergeGens_single, ← h2]
      simp only [List.flatten_cons, List.flatten_nil, List.append_nil]
      rw [h1 a (by simp)]
    · rw [mergeGens_step]
      have hflat := batches_flatten fd ((a :: b :: rest).length + 1) (a :: b :: rest)
        (Nat.lt_succ_self _)
      -- a generation writes the specification of each group
      rw [List.map_congr_left (g := Spec.merged m ∘ List.flatten) fun c hc =>
        unionBatch_flatten m c fun s hs => by
          rw [← h1 s (mem_of_mem_batches (Nat.lt_succ_self _) hc hs)]; exact merged_canon m s,
        ← List.map_map]
      have hperm := hsched (g + 1) (((batches fd ((a :: b :: rest).length + 1)
        (a :: b :: rest)).map List.flatten).map (Spec.merged m))
      obtain ⟨h1', h2'⟩ := inv_of_perm m hperm
      refine ih _ _ h1' (h2'.trans ?_) ?_
      · rw [← List.flatten_flatten, hflat]; exact h2
      · have := batches_length_lt fd hfd ((a :: b :: rest).length + 1) (a :: b :: rest)
          (Nat.le_add_left 2 _)
        rw [hperm.length_eq, List.length_map, List.length_map]
        exact Nat.le_of_lt_succ (Nat.lt_of_lt_of_le this hl)

theorem C19_result_final (m : MergeMode) (batchSize fd : Nat)
    (hfd : 2 ≤ fd) (sched : Nat → List KV → List KV)
    (hsched : ∀ g xs, (sched g xs).Perm xs) (rows : List (Key × Nat)) :
    mergeAll m batchSize fd sched rows = some (Spec.merged m rows) := by
  unfold mergeAll
  simp only
  rw [List.map_congr_left fun r _ => kvBatch_spec m r]
  obtain ⟨h1, h2⟩ := inv_of_perm m (hsched 0 ((batches batchSize (rows.length + 1) rows).map
    (Spec.merged m)))
  rw [batches_flatten batchSize _ _ (by omega)] at h2
  exact mergeGens_spec m fd hfd sched hsched rows _ _ _ h1 h2 (Nat.le_succ _)

theorem C19_result (hU : UnionSpecV) (m : MergeMode) (batchSize fd : Nat)
    (_hb : 1 ≤ batchSize) (hfd : 2 ≤ fd) (sched : Nat → List KV → List KV)
    (hsched : ∀ g xs, (sched g xs).Perm xs) (rows : List (Key × Nat)) :
    mergeAll m batchSize fd sched rows = some (Spec.merged m rows) :=
  C19_result_final m batchSize fd hfd sched hsched rows

theorem C19_result' (hU : UnionSpec) (m : MergeMode) (batchSize fd : Nat)
    (hb : 1 ≤ batchSize) (hfd : 2 ≤ fd) (sched : Nat → List KV → List KV)
    (hsched : ∀ g xs, (sched g xs).Perm xs) (rows : List (Key × Nat)) :
    mergeAll m batchSize fd sched rows = some (Spec.merged m rows) :=
  C19_result_final m batchSize fd hfd sched hsched rows

/-- in particular the result does not depend on batch size, group size or scheduling -/
theorem C19_independent (hU : UnionSpecV) (m : MergeMode) (b1 b2 fd1 fd2 : Nat)
    (hb1 : 1 ≤ b1) (hb2 : 1 ≤ b2) (hf1 : 2 ≤ fd1) (hf2 : 2 ≤ fd2)
    (s1 s2 : Nat → List KV → List KV) (hs1 : ∀ g xs, (s1 g xs).Perm xs)
    (hs2 : ∀ g xs, (s2 g xs).Perm xs) (rows : List (Key × Nat)) :
    mergeAll m b1 fd1 s1 rows = mergeAll m b2 fd2 s2 rows := by
  rw [C19_result hU m b1 fd1 hb1 hf1 s1 hs1, C19_result hU m b2 fd2 hb2 hf2 s2 hs2]

/-- outside the contract: with `fd_limit ≤ 1` (`batcher` treats 0 like 1) and at least two
results no generation makes progress (the Rust loop does not terminate; the model runs out of fuel). -/
theorem C19_no_progress_fd_le1 (m : MergeMode) (fd : Nat) (hfd : fd ≤ 1)
    (sched : Nat → List KV → List KV) (hsched : ∀ g xs, (sched g xs).Perm xs) :
    ∀ (fuel g : Nat) (results : List KV), 2 ≤ results.length →
      mergeGens m fd sched fuel g results = none := by
  intro fuel
  induction fuel with
  | zero =>
    intro g results h
    match results, h with
    | a :: b :: rest, _ => rfl
  | succ fuel ih =>
    intro g results h
    match results, h with
    | a :: b :: rest, h =>
      rw [mergeGens_step]
      apply ih
      rw [(hsched _ _).length_eq, List.length_map, batches_le_one_length fd hfd _ _ (by omega)]
      exact h

/-- the case `fd_limit = 1` -/
theorem C19_no_progress_fd1 (m : MergeMode) (sched : Nat → List KV → List KV)
    (hsched : ∀ g xs, (sched g xs).Perm xs) :
    ∀ (fuel g : Nat) (results : List KV), 2 ≤ results.length →
      mergeGens m 1 sched fuel g results = none :=
  C19_no_progress_fd_le1 m 1 (Nat.le_refl 1) sched hsched

theorem kvBatch_unionBatch_final (m : MergeMode) (Rs : List (List (Key × Nat))) :
    unionBatch m (Rs.map (kvBatch m)) = Spec.merged m Rs.flatten := by
  rw [List.map_congr_left (fun r _ => kvBatch_spec m r), unionBatch_flatten m _ (fun s hs => by
    obtain ⟨R, _, rfl⟩ := List.mem_map.mp hs; exact merged_canon m R), merged_flatten_merged]

def demoRows : List (Key × Nat) :=
  [([98], 1), ([97], 2), ([98], 5), ([97, 97], 7), ([98], 3), ([], 4), ([97], 9)]

example : Spec.merged .sum demoRows = [([], 4), ([97], 11), ([97, 97], 7), ([98], 9)] := by decide
example : Spec.merged .max demoRows = [([], 4), ([97], 9), ([97, 97], 7), ([98], 5)] := by decide
example : Spec.merged .min demoRows = [([], 4), ([97], 2), ([97, 97], 7), ([98], 1)] := by decide
example : Spec.merged .set demoRows = [([], 0), ([97], 0), ([97, 97], 0), ([98], 0)] := by decide

def revSched : Nat → List KV → List KV := fun _ xs => xs.reverse
example : ∀ g xs, (revSched g xs).Perm xs := fun _ xs => List.reverse_perm xs

example : mergeAll .sum 2 2 revSched demoRows = some (Spec.merged .sum demoRows) := by
  decide +kernel
example : mergeAll .min 1 3 (fun _ xs => xs) demoRows = some (Spec.merged .min demoRows) := by
  decide +kernel
example : mergeAll .max 3 2 revSched demoRows = some (Spec.merged .max demoRows) := by
  decide +kernel
example : kvBatch .sum demoRows = Spec.merged .sum demoRows := kvBatch_spec _ _
example : unionBatch .sum [Spec.merged .sum (demoRows.take 3), Spec.merged .sum (demoRows.drop 3)]
    = Spec.merged .sum demoRows := by decide
example : batches 3 8 [1, 2, 3, 4, 5, 6, 7] = [[1, 2, 3], [4, 5, 6], [7]] := by decide
example : batches 0 4 [1, 2, 3] = [[1], [2], [3]] := by decide
example : mergeAll .sum 0 2 revSched demoRows = some (Spec.merged .sum demoRows) :=
  C19_result_final _ _ _ (by omega) _ (fun _ xs => List.reverse_perm xs) _
example : mergeAll .sum 2 1 revSched demoRows = none := by decide
example : mergeAll .sum 2 0 revSched demoRows = none := by decide

end MergeProofs
end Fst
