import FstVerif.Proofs.BuildSide
import FstVerif.Proofs.Store
/-
C12 (minimality) on the model of the builder (`Model/Build.lean`, `Model/Registry.lean`).
* No duplicates (`C12_no_dup`, `C12_no_dup_finish`): `Full` — without evictions every emitted node still sits
  in a live cell of its bucket, so `compile` of an equal node is a cache hit (`compile_full`); `Full` is an
  `EInv` of Proofs/BuildSide.lean.
* Trie bound (`C12_trie_bound*`, every geometry): the counting invariant `TB` over `Built s ks` — one accepted
  key adds at most its bytes beyond the common prefix with the previous key (`measure_step`), and those
  prefixes are new (`step_tb`); `prefixCount` = non-root nodes of the prefix trie.
* Myhill–Nerode (`C12_minimal_set_of`, `C12_minimal_set`; set mode, no evictions): with outputs 0, sorted inputs
  and non-empty targets (`InvNE`, `C12_targets_nonempty`) the right language determines the node
  (`node_eq_of_den`); `den_injective` for any such `GoodStore`, by induction on addresses.
`TB` and `InvNE` are carried by `Step` / `PopMotive` (`lenMotive`, `neMotive`: what one pop keeps).
The hypotheses are necessary: the 1×1 (evictions) and 0×0 (rejecting) runs next to `runSet_8_2`.
-/
namespace Fst
namespace MinP

/-- the cache never rejects and, while nothing was evicted, holds every emitted node. `16 ≤ count`
(the header) makes every emitted address differ from `NONE_ADDRESS`, so a freshly filled cell is live. -/
structure Full (s : BState) : Prop where
  geo : Geo s.reg
  count : 16 ≤ s.count
  present : s.reg.evictions = 0 → ∀ e ∈ s.out, Present s.reg e
  nodup : s.reg.evictions = 0 → (s.out.map (·.node)).Nodup

theorem compile_full {s s' : BState} {n : BNode} {a : Nat} (h : s.compile n = .ok (s', a))
    (hF : Full s) : Full s' := by
  have g := hF.geo
  have hlen := g.buckets.get g.rows_pos n
  rcases compile_cases h with ⟨_, rfl, _⟩ | ⟨_, reg', hre, rfl⟩ | ⟨_, reg', en, cs, hre, hnf, _, rfl, rfl⟩
  · exact hF
  · -- hit: the bucket holds the same cells
    obtain ⟨_, l₁, c, l₂, hb, _, _, _, rfl⟩ := entry_found_spec hre
    rw [hb] at hlen
    exact ⟨.of_buckets g.rows_pos g.cols_pos (g.buckets.set n (by simpa [Nat.add_assoc] using hlen) _), hF.count,
      fun h0 e he => Present.setBucket g _ (fun x hx _ => List.perm_middle.mem_iff.mp (hb ▸ hx))
        (hF.present h0 e he), hF.nodup⟩
  · cases en with
    | found a' => exact absurd rfl (hnf a')
    | rejected => have := (entry_rejected hre).2; have := g.rows_pos; have := g.cols_pos; omega
    | notFound b =>
      have h16 := hF.count
      obtain ⟨_, _, hno, ⟨h0, _⟩ | ⟨l, c, hl, hins⟩⟩ :=
        entry_notFound_spec hre (s.count + (cs.map List.length).sum - 1)
      · rw [h0] at hlen; have := g.cols_pos; simp only [List.length_nil] at hlen; omega
      simp only [emitState]
      rw [hins]
      rw [hl] at hlen
      -- no eviction afterwards: none before, and the recycled cell was not live
      have hev0 : s.reg.evictions + (if !c.isNone then 1 else 0) = 0 → s.reg.evictions = 0 ∧ c.isNone = true := by
        cases c.isNone <;> simp
      refine ⟨.of_buckets g.rows_pos g.cols_pos (g.buckets.set n (by simpa using hlen) _), by simp only; omega,
        ?_, ?_⟩
      · intro hev e he
        obtain ⟨h0, hcn⟩ := hev0 hev
        rcases List.mem_cons.mp he with rfl | he
        · refine ⟨⟨_, n⟩, ?_, rfl, rfl, by simp [Cell.isNone, NONE_ADDRESS]; omega⟩
          rw [bucketOf_setBucket g.buckets g.rows_pos, if_pos rfl]
          exact List.mem_cons_self
        · refine Present.setBucket g _ (fun x hx hx' => ?_) (hF.present h0 e he)
          rw [hl, List.mem_append, List.mem_singleton] at hx
          rcases hx with hx | rfl
          · exact List.mem_cons_of_mem _ hx
          · rw [hcn] at hx'; cases hx'
      · intro hev
        obtain ⟨h0, _⟩ := hev0 hev
        simp only [List.map_cons, List.nodup_cons]
        -- an equal node emitted before would sit in a live cell of this bucket (`present`): no miss
        refine ⟨fun hmem => ?_, hF.nodup h0⟩
        obtain ⟨e, he, hen⟩ := List.mem_map.mp hmem
        obtain ⟨x, hx, _, h2, h3⟩ := hF.present h0 e he
        exact hno x (hen ▸ hx) ⟨h3, h2.trans hen⟩

theorem Full_einv : EInv Full where
  frame := by
    intro s hF s' h1 h2 h3 _
    exact ⟨h2 ▸ hF.geo, h3 ▸ hF.count, by rw [h1, h2]; exact hF.present, by rw [h1, h2]; exact hF.nodup⟩
  compile := compile_full

/-- only `compile` touches the cache: the geometry stays, the eviction counter never decreases -/
theorem reg_einv (R C E : Nat) :
    EInv fun s => s.reg.rows = R ∧ s.reg.cols = C ∧ E ≤ s.reg.evictions where
  frame := by intro s h s' _ h2 _ _; rw [h2]; exact h
  compile := by
    intro s s' n a h ⟨h1, h2, h3⟩
    rcases compile_cases h with ⟨_, rfl, _⟩ | ⟨_, reg', hre, rfl⟩ | ⟨_, reg', en, cs, hre, _, _, _, rfl⟩
    · exact ⟨h1, h2, h3⟩
    · obtain ⟨f1, f2, f3⟩ := after_fields hre 0
      exact ⟨f1.trans h1, f2.trans h2, Nat.le_trans h3 f3⟩
    · obtain ⟨f1, f2, f3⟩ := after_fields hre a
      exact ⟨f1.trans h1, f2.trans h2, Nat.le_trans h3 f3⟩

end MinP

open MinP

/-- a cache of at least one row and one column never rejects a node -/
def NeverRejects (s : BState) : Prop := 1 ≤ s.reg.rows ∧ 1 ≤ s.reg.cols

theorem reachable_full {s : BState} (h : Reachable s) : NeverRejects s → Full s := by
  induction h with
  | new rows cols =>
    intro ⟨hr, hc⟩
    exact ⟨.of_buckets hr hc (Buckets.new rows (List.length_replicate ..)), by simp [BState.new], fun _ e he => by simp [BState.new] at he,
      fun _ => by simp [BState.new]⟩
  | @insert s s' k v _ hi ih =>
    intro hnr
    obtain ⟨h1, h2, _⟩ := (reg_einv s.reg.rows s.reg.cols 0).insert hi ⟨rfl, rfl, Nat.zero_le _⟩
    exact Full_einv.insert hi (ih (by unfold NeverRejects at *; omega))
  | @add s s' k _ ha ih =>
    intro hnr
    obtain ⟨h1, h2, _⟩ := (reg_einv s.reg.rows s.reg.cols 0).add ha ⟨rfl, rfl, Nat.zero_le _⟩
    exact Full_einv.add ha (ih (by unfold NeverRejects at *; omega))

/-- C12, no duplicates: in every reachable state whose cache never rejects and has not evicted
an entry, the emitted nodes are pairwise distinct -/
theorem C12_no_dup {s : BState} (h : Reachable s) (hnr : 1 ≤ s.reg.rows ∧ 1 ≤ s.reg.cols)
    (hev : s.reg.evictions = 0) : (s.out.map (·.node)).Nodup :=
  (reachable_full h hnr).nodup hev

theorem C12_no_dup_finish {s s' : BState} {root : Nat} (h : Reachable s)
    (hnr : 1 ≤ s.reg.rows ∧ 1 ≤ s.reg.cols) (hf : s.finish = .ok (s', root))
    (hev : s'.reg.evictions = 0) : (s'.out.map (·.node)).Nodup :=
  (Full_einv.finish hf (reachable_full h hnr)).nodup hev

/-- those prefixes of `k` that are longer than `i` bytes -/
def prefixesFrom (k : Key) (i : Nat) : List Key :=
  (List.range (k.length - i)).map fun j => k.take (i + j + 1)

/-- the non-empty prefixes of a key -/
def prefixesOf (k : Key) : List Key := prefixesFrom k 0

def allPrefixes (ks : List Key) : List Key := ks.flatMap prefixesOf

/-- drop repeated elements -/
def distinct : List Key → List Key
  | [] => []
  | a :: l => if a ∈ l then distinct l else a :: distinct l

/-- the number of distinct non-empty prefixes of the keys = the number of non-root nodes
of their prefix trie -/
def prefixCount (ks : List Key) : Nat := (distinct (allPrefixes ks)).length

example : prefixCount [[1, 2, 3], [1, 2, 4], [1, 5], [1, 5]] = 5 := by decide

namespace MinP

theorem mem_distinct {p : Key} : ∀ {l : List Key}, p ∈ distinct l ↔ p ∈ l
  | [] => by simp [distinct]
  | a :: l => by
    simp only [distinct]
    split
    · rename_i h
      rw [mem_distinct (l := l)]
      simp only [List.mem_cons]
      constructor
      · exact Or.inr
      · rintro (rfl | h') <;> assumption
    · simp only [List.mem_cons, mem_distinct (l := l)]

theorem nodup_distinct : ∀ (l : List Key), (distinct l).Nodup
  | [] => by simp [distinct]
  | a :: l => by
    simp only [distinct]
    split
    · exact nodup_distinct l
    · rename_i h
      rw [List.nodup_cons]
      exact ⟨fun hm => h (mem_distinct.mp hm), nodup_distinct l⟩

theorem mem_prefixesFrom {k p : Key} {i : Nat} :
    p ∈ prefixesFrom k i ↔ ∃ j, i + j + 1 ≤ k.length ∧ p = k.take (i + j + 1) := by
  simp only [prefixesFrom, List.mem_map, List.mem_range]
  constructor
  · rintro ⟨j, hj, rfl⟩; exact ⟨j, by omega, rfl⟩
  · rintro ⟨j, hj, rfl⟩; exact ⟨j, by omega, rfl⟩

theorem length_prefixesFrom (k : Key) (i : Nat) : (prefixesFrom k i).length = k.length - i := by
  simp [prefixesFrom]

theorem nodup_prefixesFrom (k : Key) (i : Nat) : (prefixesFrom k i).Nodup := by
  unfold prefixesFrom
  rw [List.Nodup, List.pairwise_map]
  refine List.Pairwise.imp_of_mem ?_ (List.nodup_range (n := k.length - i))
  intro a b ha hb hab e
  rw [List.mem_range, Nat.lt_sub_iff_add_lt'] at ha hb
  have := congrArg List.length e
  simp only [List.length_take] at this
  omega

theorem prefix_of_mem_prefixesFrom {k p : Key} {i : Nat} (h : p ∈ prefixesFrom k i) :
    p <+: k ∧ i < p.length := by
  obtain ⟨j, hj, rfl⟩ := mem_prefixesFrom.mp h
  refine ⟨List.take_prefix _ _, ?_⟩
  rw [List.length_take]; omega

theorem allPrefixes_append (ks : List Key) (k : Key) :
    allPrefixes (ks ++ [k]) = allPrefixes ks ++ prefixesOf k := by
  simp [allPrefixes]

theorem mem_allPrefixes {ks : List Key} {p : Key} (h : p ∈ allPrefixes ks) :
    ∃ k ∈ ks, p <+: k ∧ 0 < p.length := by
  simp only [allPrefixes, List.mem_flatMap] at h
  obtain ⟨k, hk, hp⟩ := h
  exact ⟨k, hk, prefix_of_mem_prefixesFrom hp⟩

theorem prefixesFrom_subset (k : Key) (i : Nat) : ∀ p ∈ prefixesFrom k i, p ∈ prefixesOf k := by
  intro p hp
  obtain ⟨j, hj, rfl⟩ := mem_prefixesFrom.mp hp
  exact mem_prefixesFrom.mpr ⟨i + j, by omega, by simp⟩

theorem prefix_le_lcp : ∀ (p a b : Key), p <+: a → p <+: b → p.length ≤ lcp a b
  | [], _, _, _, _ => Nat.zero_le _
  | x :: p, a, b, ha, hb => by
    obtain ⟨ta, rfl⟩ := ha
    obtain ⟨tb, rfl⟩ := hb
    simp only [List.cons_append, lcp, if_true, List.length_cons]
    have := prefix_le_lcp p (p ++ ta) (p ++ tb) (List.prefix_append _ _) (List.prefix_append _ _)
    omega

/-- keys with a common prefix form an interval of the key order -/
theorem prefix_convex : ∀ (p a b c : Key), lexLe a b = true → lexLe b c = true → p <+: a → p <+: c →
    p <+: b
  | [], _, _, _, _, _, _, _ => List.nil_prefix
  | x :: p, a, b, c, hab, hbc, ha, hc => by
    obtain ⟨ta, rfl⟩ := ha
    obtain ⟨tc, rfl⟩ := hc
    cases b with
    | nil => simp [lexLe, lexLt] at hab
    | cons y b =>
      simp only [List.cons_append] at hab hbc
      rcases lexLe_cons_iff.1 hab with h1 | ⟨rfl, h1⟩
      · rcases lexLe_cons_iff.1 hbc with h2 | ⟨rfl, _⟩
        · exact absurd h2 (UInt8.lt_asymm h1)
        · exact absurd h1 (UInt8.lt_irrefl _)
      · rcases lexLe_cons_iff.1 hbc with h2 | ⟨_, h2⟩
        · exact absurd h2 (UInt8.lt_irrefl _)
        · exact List.cons_prefix_cons.mpr ⟨rfl,
            prefix_convex p _ b _ h1 h2 (List.prefix_append _ _) (List.prefix_append _ _)⟩

theorem compile_out_length {s s' : BState} {n : BNode} {a : Nat} (h : s.compile n = .ok (s', a)) :
    s'.out.length ≤ s.out.length + 1 := by
  rcases compile_cases h with ⟨_, rfl, _⟩ | ⟨_, _, _, rfl⟩ | ⟨_, _, _, _, _, _, _, _, rfl⟩
  · exact Nat.le_succ _
  · exact Nat.le_succ _
  · exact Nat.le_refl _

/-- a pop emits at most one node and shortens the stack by one -/
theorem lenMotive (c : Nat) : PopMotive fun s st => s.out.length + st.length ≤ c where
  frame := fun _ _ _ h => h
  pop := by
    intro s s1 pre u v a _ _ pf h
    have := compile_out_length pf.eq
    simp only [List.length_append, List.length_cons, List.length_nil] at h ⊢
    omega

theorem chain_length : ∀ bs : Key, (chain bs).length = bs.length + 1
  | [] => rfl
  | b :: bs => by simp [chain, chain_length bs]

/-- emitted nodes plus unfinished nodes above the root -/
def measure (s : BState) : Nat := s.out.length + (s.stack.length - 1)

/-- one accepted key: the measure grows by at most its bytes beyond the common prefix with the
pending path (none for the empty key or the pending key again) -/
theorem measure_step {s s' : BState} {acc : KV} {k : Key} {out : Option Nat} (hc : Core s acc)
    (st : Step (fun t st => t.out.length + st.length ≤ s.out.length + s.stack.length) s k out s') :
    measure s' ≤ measure s + (k.length - lcp k (pathKey s.stack)) := by
  cases st with
  | empty _ _ hs =>
    subst hs
    simp only [measure]
    cases s.stack <;> simp [setRootOutput]
  | dup _ _ _ hs => subst hs; simp only [measure, (cps_spec _ _ _ hc.wf).length]; omega
  | new i rem front top popped s1 a b2 bs' _ _ run hs =>
    subst hs
    have hidx : i = lcp k (pathKey s.stack) := by
      have := (cps_spec k s.stack (out.getD 0) hc.wf).index
      rw [run.cps_eq] at this; exact this
    have hlen : (front ++ top :: popped).length = s.stack.length := by
      have := (cps_spec k s.stack (out.getD 0) hc.wf).length
      rw [run.cps_eq] at this; exact this
    have hol : s1.out.length + (front ++ [(⟨top.freeze a, none⟩ : UNode)]).length ≤ s.out.length + s.stack.length :=
      run.motive front (Nat.le_of_eq (by rw [hlen]))
    have hd : k.length - i = bs'.length + 1 := by
      have := congrArg List.length run.drop
      rw [List.length_drop, List.length_cons] at this; exact this
    show s1.out.length + ((front ++ ⟨top.freeze a, some (b2, rem)⟩ :: chain bs').length - 1) ≤
      s.out.length + (s.stack.length - 1) + (k.length - lcp k (pathKey s.stack))
    -- stack length written as `front.length + …`: no truncated subtraction left for `omega`
    rw [← hlen] at hol ⊢
    simp only [List.length_append, List.length_cons, List.length_nil, chain_length, ← hidx, hd,
      ← Nat.add_assoc, Nat.add_sub_cancel] at hol ⊢
    omega

end MinP

/-- `Built s ks`: `s` is a new builder after the accepted calls `insert`/`add` with keys `ks` -/
inductive Built : BState → List Key → Prop
  | new (rows cols : Nat) : Built (BState.new rows cols) []
  | insert {s s' : BState} {ks : List Key} (k : Key) (v : Nat) :
      Built s ks → s.insert k v = .ok s' → Built s' (ks ++ [k])
  | add {s s' : BState} {ks : List Key} (k : Key) :
      Built s ks → s.add k = .ok s' → Built s' (ks ++ [k])

theorem Built.reachable {s : BState} {ks : List Key} (h : Built s ks) : Reachable s := by
  induction h with
  | new rows cols => exact Reachable.new rows cols
  | insert k v _ hi ih => exact Reachable.insert k v ih hi
  | add k _ ha ih => exact Reachable.add k ih ha

theorem built_insertAll : ∀ (kvs : KV) {s s' : BState} {ks : List Key}, Built s ks →
    insertAll s kvs = .ok s' → Built s' (ks ++ kvs.map (·.1))
  | [], s, s', ks, h, e => by cases e; simpa using h
  | kv :: rest, s, s', ks, h, e => by
    obtain ⟨s1, hi, e'⟩ := insertAll_cons_ok.mp e
    simpa using built_insertAll rest (Built.insert kv.1 kv.2 h hi) e'

theorem built_addAll : ∀ (ks' : List Key) {s s' : BState} {ks : List Key}, Built s ks →
    addAll s ks' = .ok s' → Built s' (ks ++ ks')
  | [], s, s', ks, h, e => by cases e; simpa using h
  | k :: rest, s, s', ks, h, e => by
    obtain ⟨s1, hi, e'⟩ := addAll_cons_ok.mp e
    simpa using built_addAll rest (Built.add k h hi) e'

namespace MinP

/-- the counting invariant: a duplicate-free list of prefixes of the accepted keys, one for
every emitted node and every unfinished node above the root -/
structure TB (s : BState) (ks : List Key) : Prop where
  last : s.last = ks.getLast?
  sorted : ∀ k' ∈ ks, ∀ l, s.last = some l → lexLe k' l = true
  wit : ∃ W : List Key, W.Nodup ∧ (∀ p ∈ W, p ∈ allPrefixes ks) ∧ measure s ≤ W.length

/-- the counting step, the same for `insert` and `add` (`st` is taken for every motive because it is
used with two: `lenMotive` and the trivial one): the new witnesses are the prefixes
of `k` longer than its common prefix with the previous key -/
theorem step_tb {s s' : BState} {acc : KV} {ks : List Key} {k : Key} {out : Option Nat}
    (hinv : Inv s acc) (htb : TB s ks) (hle : ∀ l, s.last = some l → lexLe l k = true)
    (st : ∀ {M : BState → List UNode → Prop}, PopMotive M → Step M { s with last := some k } k out s') :
    TB s' (ks ++ [k]) := by
  obtain ⟨W, hW1, hW2, hW3⟩ := htb.wit
  have hm : measure s' ≤ measure s + (k.length - lcp k (pathKey s.stack)) :=
    measure_step (s := { s with last := some k }) (Core_setLast hinv.core (some k))
      (st (lenMotive (s.out.length + s.stack.length)))
  have hlast : s'.last = some k := (st PopMotive.trivial).last_eq
  have hnone : s.last = none → ks = [] := fun hl =>
    List.getLast?_eq_none_iff.mp (by rw [← htb.last, hl])
  refine ⟨by rw [hlast]; simp, ?_, W ++ prefixesFrom k (lcp k (pathKey s.stack)), ?_, ?_, ?_⟩
  · intro k' hk' l hl
    rw [hlast] at hl; cases hl
    rcases List.mem_append.mp hk' with hk' | hk'
    · cases hl : s.last with
      | none => rw [hnone hl] at hk'; cases hk'
      | some l => exact lexLe_trans (htb.sorted k' hk' l hl) (hle l hl)
    · rw [List.mem_singleton.mp hk']; exact lexLe_refl _
  · -- a prefix of an earlier key that is also a prefix of `k` is a prefix of the previous key
    -- (`prefix_convex`), hence no longer than the common prefix
    rw [List.nodup_append]
    refine ⟨hW1, nodup_prefixesFrom _ _, ?_⟩
    intro p hp1 q hp2 hpq
    subst hpq
    obtain ⟨k', hk', hpk', _⟩ := mem_allPrefixes (hW2 p hp1)
    obtain ⟨hpk, hlen⟩ := prefix_of_mem_prefixesFrom hp2
    cases hl : s.last with
    | none => rw [hnone hl] at hk'; cases hk'
    | some l =>
      have hpl : pathKey s.stack = l := by rw [hinv.path, hl]; rfl
      have hconv := prefix_convex p k' l k (htb.sorted k' hk' l hl) (hle l hl) hpk' hpk
      have := prefix_le_lcp p k l hpk hconv
      rw [hpl] at hlen
      omega
  · intro p hp
    rw [allPrefixes_append]
    rcases List.mem_append.mp hp with hp | hp
    · exact List.mem_append_left _ (hW2 p hp)
    · exact List.mem_append_right _ (prefixesFrom_subset _ _ p hp)
  · rw [List.length_append, length_prefixesFrom]
    omega

end MinP

/-- C12, trie bound, in every state between calls: the emitted nodes and the unfinished nodes
above the root together are at most the distinct non-empty prefixes of the accepted keys -/
theorem C12_trie_bound_built {s : BState} {ks : List Key} (h : Built s ks) :
    s.out.length + (s.stack.length - 1) ≤ prefixCount ks := by
  have htb : TB s ks := by
    induction h with
    | new rows cols =>
      exact ⟨rfl, fun _ hk' => (by cases hk'),
        ⟨[], List.nodup_nil, fun _ hp => (by cases hp), by simp [MinP.measure, BState.new]⟩⟩
    | insert k v hb hi ih =>
      obtain ⟨acc, hinv⟩ := reachable_inv hb.reachable
      exact step_tb hinv ih (fun l hl => lexLe_iff.mpr (Or.inl (insert_ok_lt hi l hl)))
        fun hM => insert_step hM hinv hi
    | add k hb ha ih =>
      obtain ⟨acc, hinv⟩ := reachable_inv hb.reachable
      exact step_tb hinv ih (add_ok_le ha) fun hM => add_step hM hinv ha
  obtain ⟨W, h1, h2, h3⟩ := htb.wit
  exact Nat.le_trans h3 (h1.length_le_of_subset fun p hp => mem_distinct.mpr (h2 p hp))

/-- C12, trie bound after `finish`: at most one node per trie node (the `+ 1` is the root) -/
theorem C12_trie_bound_finish {s s' : BState} {ks : List Key} {root : Nat} (h : Built s ks)
    (hf : s.finish = .ok (s', root)) : s'.out.length ≤ prefixCount ks + 1 := by
  obtain ⟨acc, hinv⟩ := reachable_inv h.reachable
  obtain ⟨top, popped, s1, a, s'', root', r⟩ :=
    finish_run (lenMotive (s.out.length + s.stack.length)) hinv.core
  rw [r.eq] at hf; cases hf
  have h1 := r.motive [] (Nat.le_of_eq (by rw [r.stack_eq]; rfl))
  have h2 := compile_out_length r.comp.eq
  have h3 := C12_trie_bound_built h
  simp only [r.stack_eq, List.length_cons, List.nil_append, List.length_nil] at h1 h2 h3
  omega

/-- C12, trie bound (map mode), for every cache geometry and every accepted input -/
theorem C12_trie_bound (rows cols : Nat) (kvs : KV) {s s' : BState} {root : Nat}
    (hb : insertAll (BState.new rows cols) kvs = .ok s) (hf : s.finish = .ok (s', root)) :
    s.out.length ≤ prefixCount (kvs.map (·.1)) ∧ s'.out.length ≤ prefixCount (kvs.map (·.1)) + 1 := by
  have hB := built_insertAll kvs (Built.new rows cols) hb
  simp only [List.nil_append] at hB
  have := C12_trie_bound_built hB
  exact ⟨by omega, C12_trie_bound_finish hB hf⟩

/-- C12, trie bound (set mode), for every cache geometry and every accepted input -/
theorem C12_trie_bound_set (rows cols : Nat) (ks : List Key) {s s' : BState} {root : Nat}
    (hb : addAll (BState.new rows cols) ks = .ok s) (hf : s.finish = .ok (s', root)) :
    s.out.length ≤ prefixCount ks ∧ s'.out.length ≤ prefixCount ks + 1 := by
  have hB := built_addAll ks (Built.new rows cols) hb
  simp only [List.nil_append] at hB
  have := C12_trie_bound_built hB
  exact ⟨by omega, C12_trie_bound_finish hB hf⟩

/-- `finish` does not lower the eviction counter: a finished build without evictions had none before -/
theorem evictions_mono_finish {s s' : BState} {root : Nat} (h : s.finish = .ok (s', root)) :
    s.reg.evictions ≤ s'.reg.evictions :=
  ((reg_einv _ _ s.reg.evictions).finish h ⟨rfl, rfl, Nat.le_refl _⟩).2.2

namespace MinP

theorem branches_cons (d : Nat → KV) (t : Tr) (ts : List Tr) :
    branches d (t :: ts) = lift t.inp t.out (d t.addr) ++ branches d ts := rfl

def startsWith (b : UInt8) (kv : Key × Nat) : Bool := kv.1.head? == some b

theorem lift_startsWith (b : UInt8) (o : Nat) (l : KV) : ∀ kv ∈ lift b o l, startsWith b kv = true := by
  intro kv hkv
  obtain ⟨x, _, rfl⟩ := mem_lift.mp hkv
  simp [startsWith]

theorem branches_startsWith (d : Nat → KV) (b : UInt8) (ts : List Tr) (hlt : ∀ t ∈ ts, b < t.inp) :
    ∀ kv ∈ branches d ts, startsWith b kv = false := by
  intro kv h
  obtain ⟨t, ht, r, hr⟩ := mem_branches h
  simp only [startsWith, hr, List.head?_cons, beq_eq_false_iff_ne, ne_eq, Option.some.injEq]
  intro e
  exact UInt8.lt_irrefl _ (e ▸ hlt t ht)

theorem split_by_pred {α : Type} (P : α → Bool) {A B A' B' : List α} (hA : ∀ x ∈ A, P x = true)
    (hB : ∀ x ∈ B, P x = false) (hA' : ∀ x ∈ A', P x = true) (hB' : ∀ x ∈ B', P x = false)
    (h : A ++ B = A' ++ B') : A = A' ∧ B = B' := by
  have h1 := congrArg (List.filter P) h
  rw [List.filter_append, List.filter_append, List.filter_eq_self.mpr hA, List.filter_eq_self.mpr hA',
    List.filter_eq_nil_iff.mpr (by simpa using hB), List.filter_eq_nil_iff.mpr (by simpa using hB')] at h1
  simp only [List.append_nil] at h1
  subst h1
  exact ⟨rfl, List.append_cancel_left h⟩

theorem lift_injective (b : UInt8) (o : Nat) (l l' : KV) (h : lift b o l = lift b o l') : l = l' := by
  refine (List.map_inj_right fun x y hxy => ?_).mp h
  simp only [Prod.mk.injEq, List.cons.injEq, true_and] at hxy
  exact Prod.ext hxy.1 (by omega)

theorem lift_ne_nil (b : UInt8) (o : Nat) {l : KV} (h : l ≠ []) : lift b o l ≠ [] := by
  cases l with
  | nil => exact absurd rfl h
  | cons x l => simp [lift]

/-- sorted transition lists with outputs 0 and non-empty targets spelling the same entries
are equal, if equal target languages mean equal target addresses -/
theorem trans_eq_of_branches (d : Nat → KV) (ts ts' : List Tr)
    (hs : ts.Pairwise (fun a b => a.inp < b.inp)) (hs' : ts'.Pairwise (fun a b => a.inp < b.inp))
    (hz : ∀ t ∈ ts, t.out = 0) (hz' : ∀ t ∈ ts', t.out = 0)
    (hne : ∀ t ∈ ts, d t.addr ≠ []) (hne' : ∀ t ∈ ts', d t.addr ≠ [])
    (hinj : ∀ t ∈ ts, ∀ t' ∈ ts', d t.addr = d t'.addr → t.addr = t'.addr)
    (h : branches d ts = branches d ts') : ts = ts' := by
  induction ts generalizing ts' with
  | nil =>
    cases ts' with
    | nil => rfl
    | cons t' ts' =>
      rw [branches_cons] at h
      exact absurd (List.append_eq_nil_iff.mp h.symm).1 (lift_ne_nil _ _ (hne' t' List.mem_cons_self))
  | cons t ts ih =>
    cases ts' with
    | nil =>
      rw [branches_cons] at h
      exact absurd (List.append_eq_nil_iff.mp h).1 (lift_ne_nil _ _ (hne t List.mem_cons_self))
    | cons t' ts' =>
      rw [List.pairwise_cons] at hs hs'
      rw [branches_cons, branches_cons] at h
      -- the first bytes agree
      have hinp : t.inp = t'.inp := by
        obtain ⟨x, l, hx⟩ := List.exists_cons_of_ne_nil (hne t List.mem_cons_self)
        obtain ⟨x', l', hx'⟩ := List.exists_cons_of_ne_nil (hne' t' List.mem_cons_self)
        rw [hx, hx'] at h
        simp only [lift, List.map_cons, List.cons_append, List.cons.injEq, Prod.mk.injEq] at h
        exact h.1.1.1
      have hout : t.out = t'.out := by rw [hz t List.mem_cons_self, hz' t' List.mem_cons_self]
      -- so the two first blocks are the entries starting with that byte
      obtain ⟨h1, h2⟩ := split_by_pred (startsWith t.inp) (lift_startsWith _ _ _)
        (branches_startsWith d t.inp ts hs.1) (by rw [hinp]; exact lift_startsWith _ _ _)
        (by rw [hinp]; exact branches_startsWith d t'.inp ts' hs'.1) h
      rw [← hinp, ← hout] at h1
      have haddr := hinj t List.mem_cons_self t' List.mem_cons_self (lift_injective _ _ _ _ h1)
      rw [ih ts' hs.2 hs'.2 (fun x hx => hz x (List.mem_cons_of_mem _ hx))
        (fun x hx => hz' x (List.mem_cons_of_mem _ hx)) (fun x hx => hne x (List.mem_cons_of_mem _ hx))
        (fun x hx => hne' x (List.mem_cons_of_mem _ hx))
        (fun x hx y hy => hinj x (List.mem_cons_of_mem _ hx) y (List.mem_cons_of_mem _ hy)) h2]
      congr 1
      cases t; cases t'
      simp only at hinp hout haddr
      rw [hinp, hout, haddr]

/-- what a node needs for its right language to determine it -/
structure ZNode (d : Nat → KV) (n : BNode) : Prop where
  sorted : SortedInputs n
  fout : n.fout = 0
  outs : ∀ t ∈ n.trans, t.out = 0
  ne : ∀ t ∈ n.trans, d t.addr ≠ []

theorem fin_of_den (d : Nat → KV) (n : BNode) : (∃ v, ([], v) ∈ denNodeWith d n) ↔ n.fin = true := by
  constructor
  · rintro ⟨v, hv⟩
    rcases mem_denNodeWith.mp hv with ⟨hf, _⟩ | ⟨t, _, ht⟩
    · exact hf
    · obtain ⟨y, _, hy⟩ := mem_br.mp ht
      cases hy
  · intro hf
    exact ⟨n.fout, mem_denNodeWith.mpr (Or.inl ⟨hf, rfl⟩)⟩

theorem node_eq_of_den (d : Nat → KV) {n m : BNode} (hn : ZNode d n) (hm : ZNode d m)
    (hinj : ∀ t ∈ n.trans, ∀ t' ∈ m.trans, d t.addr = d t'.addr → t.addr = t'.addr)
    (h : denNodeWith d n = denNodeWith d m) : n = m := by
  have hfin : n.fin = m.fin := by
    have h1 := fin_of_den d n
    rw [h] at h1
    exact Bool.eq_iff_iff.mpr (h1.symm.trans (fin_of_den d m))
  have hown : own n = own m := by simp [own, hfin, hn.fout, hm.fout]
  rw [denNodeWith_eq, denNodeWith_eq, hown] at h
  have hb := List.append_cancel_left h
  have ht := trans_eq_of_branches d n.trans m.trans hn.sorted hm.sorted hn.outs hm.outs hn.ne hm.ne hinj hb
  have hfo : n.fout = m.fout := by rw [hn.fout, hm.fout]
  cases n; cases m
  simp only [BNode.mk.injEq]
  exact ⟨hfin, hfo, ht⟩


/-- final or with a transition: the node spells something -/
def NE (n : BNode) : Prop := n.fin = true ∨ n.trans ≠ []

/-- an unfinished node spells something, or will: a transition is pending -/
def QUne (u : UNode) : Prop := NE u.node ∨ u.last.isSome

theorem cps_ne (key : Key) (stack : List UNode) (out : Nat) (hw : WFStack stack)
    (h : ∀ u ∈ stack.drop 1, QUne u) : ∀ u ∈ (cps stack key out).2.2.drop 1, QUne u := by
  match stack, hw with
  | [u], _ => rw [cps_single]; exact h
  | u :: v :: rest, hw =>
    obtain ⟨hsome, _⟩ := WFStack_cons_cons.mp hw
    have hall : ∀ w ∈ u :: v :: rest, QUne w := by
      intro w hw'
      rcases List.mem_cons.mp hw' with rfl | hw'
      · exact Or.inr hsome
      · exact h w (by simpa using hw')
    have hpre : ∀ (v : UNode) (p : Nat), QUne v → QUne (v.addPrefix p) := by
      intro v p h
      rcases h with (h | h) | h
      · exact Or.inl (Or.inl h)
      · exact Or.inl (Or.inr (by simpa [UNode.addPrefix] using h))
      · exact Or.inr (by rw [addPrefix_last_isSome]; exact h)
    intro w hw'
    exact cps_forall QUne (fun u b o c _ _ => Or.inr rfl) hpre key _ out hw hall w
      (List.mem_of_mem_drop hw')

/-- non-emptiness of emitted nodes, and of the unfinished nodes above the root (the root itself
may be empty: the empty set) -/
def InvNE (s : BState) (st : List UNode) : Prop := (∀ e ∈ s.out, NE e.node) ∧ ∀ u ∈ st.drop 1, QUne u

/-- non-emptiness is kept by a pop: the popped node is final or has a transition, and its parent
gets one -/
theorem neMotive : PopMotive InvNE where
  frame := fun _ _ _ h => h
  pop := by
    intro s s1 pre u v a hu hv pf ⟨hall, hq⟩
    have hQ : NE v.node := by
      rcases hq v (by cases pre <;> simp) with h | h
      · exact h
      · rw [hv] at h; cases h
    refine ⟨fun e he => ?_, ?_⟩
    · rcases compile_cases pf.eq with ⟨_, rfl, _⟩ | ⟨_, _, _, rfl⟩ | ⟨_, _, _, _, _, _, _, _, rfl⟩
      · exact hall e he
      · exact hall e he
      · rcases List.mem_cons.mp he with rfl | he
        · exact hQ
        · exact hall e he
    · cases pre with
      | nil => intro w hw; cases hw
      | cons p pre' =>
        intro w hw
        rcases List.mem_append.mp (show w ∈ pre' ++ [⟨u.freeze a, none⟩] from hw) with hw | hw
        · exact hq w (show w ∈ pre' ++ [u, v] from List.mem_append_left _ hw)
        · rw [List.mem_singleton.mp hw]
          obtain ⟨bo, hbo⟩ := Option.isSome_iff_exists.mp hu
          exact Or.inl (Or.inr (by simp [UNode.freeze, hbo]))

theorem step_ne {s s' : BState} {acc : KV} {k : Key} {out : Option Nat} (hc : Core s acc)
    (hN : InvNE s s.stack) (st : Step InvNE s k out s') : InvNE s' s'.stack := by
  cases st with
  | empty _ _ hs =>
    subst hs
    refine ⟨hN.1, ?_⟩
    have h2 := hN.2
    show ∀ u ∈ (setRootOutput s.stack (out.getD 0)).drop 1, QUne u
    cases hst : s.stack with
    | nil => simp [setRootOutput]
    | cons r rest => rw [hst] at h2; simpa [setRootOutput] using h2
  | dup _ _ _ hs => subst hs; exact ⟨hN.1, cps_ne k s.stack (out.getD 0) hc.wf hN.2⟩
  | new i rem front top popped s1 a b2 bs' _ _ run hs =>
    subst hs
    have hne1 := cps_ne k s.stack (out.getD 0) hc.wf hN.2
    rw [run.cps_eq] at hne1
    refine ⟨(run.motive front ⟨hN.1, hne1⟩).1, ?_⟩
    intro u hu
    have hu' := List.mem_of_mem_drop hu
    simp only [List.mem_append, List.mem_cons] at hu'
    rcases hu' with hu' | rfl | hu'
    · exact Or.inr (run.fsome u hu')
    · exact Or.inr rfl
    · exact chain_forall QUne (fun b => Or.inr rfl) (Or.inl (Or.inl rfl)) bs' u hu'

theorem reachable_ne {s : BState} (h : Reachable s) : InvNE s s.stack :=
  h.step_induction neMotive
    (fun _ _ => ⟨fun e he => by simp [BState.new] at he, fun u hu => by simp [BState.new] at hu⟩)
    fun {_ _ _ k _} hinv hN st => step_ne (Core_setLast hinv.core (some k)) hN st

/-- non-empty nodes spell non-empty languages -/
theorem ne_den {s : Store} {den : Nat → KV} (hg : GoodStore s den) (hall : ∀ a n, (a, n) ∈ s → NE n) :
    ∀ (N a : Nat), a < N → (a = 0 ∨ ∃ n, (a, n) ∈ s) → den a ≠ [] := by
  intro N
  induction N with
  | zero => intro a h; omega
  | succ N ih =>
    intro a ha hok
    rcases hok with rfl | ⟨m, hm⟩
    · rw [hg.den_zero]; simp
    · rw [hg.unfold a m hm, denNodeWith_eq]
      rcases hall a m hm with hq | hq
      · simp [own, hq]
      · obtain ⟨t, ts, hts⟩ := List.exists_cons_of_ne_nil hq
        obtain ⟨hlt, htgt⟩ := hg.acyclic a m hm t (by rw [hts]; simp)
        have := ih t.addr (by omega) htgt
        rw [hts, branches_cons]
        intro e
        have e1 := List.append_eq_nil_iff.mp e
        exact lift_ne_nil _ _ this (List.append_eq_nil_iff.mp e1.2).1

theorem finish_targets_ne {s s' : BState} {acc : KV} {root : Nat} (h : Core s acc)
    (hN : InvNE s s.stack) (hf : s.finish = .ok (s', root)) :
    ∀ e ∈ s'.out, ∀ t ∈ e.node.trans, denR s'.out t.addr ≠ [] := by
  obtain ⟨top, popped, s1, a, s'', root', r⟩ := finish_run neMotive h
  rw [r.eq] at hf; cases hf
  obtain ⟨p1, _⟩ := r.motive [] (by rw [List.nil_append, ← r.stack_eq]; exact hN)
  have pf := r.comp
  have hden : ∀ x, AddrOK ({ s1 with stack := [⟨top.freeze a, none⟩] } : BState) x →
      denR s'.out x ≠ [] := by
    intro x hx
    rw [pf.le.2.2 x hx.1]
    refine ne_den pf.sinv.out.storeOK.goodStore (fun a n hn => ?_) (x + 1) x (Nat.lt_succ_self _)
      (hx.2.imp id fun ⟨m, hm⟩ => ⟨m, List.mem_reverse.mpr hm⟩)
    obtain ⟨e, he, _, rfl⟩ := mem_rstore_iff.mp (List.mem_reverse.mp hn)
    exact p1 e he
  intro e he t ht
  rcases compile_cases pf.eq with ⟨_, rfl, _⟩ | ⟨_, _, _, rfl⟩ | ⟨_, _, _, _, _, _, _, _, rfl⟩
  · exact hden _ (emitted_addrOK pf.sinv he t ht)
  · exact hden _ (emitted_addrOK pf.sinv he t ht)
  · rcases List.mem_cons.mp he with rfl | he
    · exact hden _ (pf.node.2.2 t ht)
    · exact hden _ (emitted_addrOK pf.sinv he t ht)

theorem nodup_map_inj {α β : Type} (f : α → β) (l : List α) (h : (l.map f).Nodup) :
    ∀ a ∈ l, ∀ b ∈ l, f a = f b → a = b := by
  have hp : l.Pairwise fun a b => f a ≠ f b := List.pairwise_map.mp h
  exact fun a ha b hb => List.Pairwise.forall_of_forall_of_flip (R := fun a b => f a = f b → a = b)
    (fun _ _ _ => rfl) (hp.imp fun hne e => absurd e hne) (hp.imp fun hne e => absurd e.symm hne) ha hb

def sentinel : BNode := ⟨true, 0, []⟩

/-- a state of a store: address 0 (the shared empty final node) or a stored address; it spells
`denNodeWith den n` for a node `n` that is the sentinel or stored there -/
theorem stateFacts {s : Store} {den : Nat → KV} (hg : GoodStore s den)
    (hz : ∀ a n, (a, n) ∈ s → ZNode den n) {a : Nat} (ha : a = 0 ∨ ∃ n, (a, n) ∈ s) :
    ∃ n, den a = denNodeWith den n ∧ ZNode den n ∧
      (∀ t ∈ n.trans, t.addr < a ∧ (t.addr = 0 ∨ ∃ m, (t.addr, m) ∈ s)) ∧
      ((a = 0 ∧ n = sentinel) ∨ (a, n) ∈ s) := by
  rcases ha with h0 | ⟨n, hn⟩
  · subst h0
    refine ⟨sentinel, by simp [hg.den_zero, denNodeWith, own, sentinel],
      ⟨by simp [SortedInputs, sentinel], rfl, by simp [sentinel], by simp [sentinel]⟩,
      by simp [sentinel], Or.inl ⟨rfl, rfl⟩⟩
  · exact ⟨n, hg.unfold a n hn, hz a n hn, hg.acyclic a n hn, Or.inr hn⟩

/-- Myhill–Nerode for a store: if every node is determined by its right language (`ZNode`), no
node is stored twice and the empty final node is not stored at all, then two states with the
same right language are the same state -/
theorem den_injective {s : Store} {den : Nat → KV} (hg : GoodStore s den)
    (hz : ∀ a n, (a, n) ∈ s → ZNode den n) (hnd : ∀ a b n, (a, n) ∈ s → (b, n) ∈ s → a = b)
    (hns : ∀ a, (a, sentinel) ∉ s) : ∀ (N a b : Nat), a < N → b < N →
    (a = 0 ∨ ∃ n, (a, n) ∈ s) → (b = 0 ∨ ∃ m, (b, m) ∈ s) → den a = den b → a = b := by
  intro N
  induction N with
  | zero => intro a b h; omega
  | succ N ih =>
    intro a b haN hbN ha hb hden
    obtain ⟨n, hn1, hn2, hn3, hn4⟩ := stateFacts hg hz ha
    obtain ⟨m, hm1, hm2, hm3, hm4⟩ := stateFacts hg hz hb
    have hnm : n = m := by
      apply node_eq_of_den den hn2 hm2
      · intro t ht t' ht' hd
        exact ih t.addr t'.addr (Nat.lt_of_lt_of_le (hn3 t ht).1 (Nat.le_of_lt_succ haN))
          (Nat.lt_of_lt_of_le (hm3 t' ht').1 (Nat.le_of_lt_succ hbN)) (hn3 t ht).2 (hm3 t' ht').2 hd
      · rw [← hn1, ← hm1, hden]
    subst hnm
    rcases hn4 with ⟨a0, hs⟩ | hn4
    · rcases hm4 with ⟨b0, _⟩ | hm4
      · rw [a0, b0]
      · subst hs; exact absurd hm4 (hns b)
    · rcases hm4 with ⟨b0, hs⟩ | hm4
      · subst hs; exact absurd hn4 (hns a)
      · exact hnd a b n hn4 hm4

theorem mem_storeOf_iff {s : BState} {a : Nat} {n : BNode} :
    (a, n) ∈ storeOf s ↔ ∃ e ∈ s.out, e.addr = a ∧ e.node = n :=
  mem_storeOf.trans mem_rstore_iff

end MinP

/-- C12, minimality of sets (Myhill–Nerode), for every accepted input: in a finished set build
whose cache never rejects and has not evicted an entry, two states (emitted nodes or the
address-0 empty final node) with the same right language are the same state -/
theorem C12_minimal_set_of {rows cols : Nat} (hr : 1 ≤ rows) (hc : 1 ≤ cols) {ks : List Key}
    {s s' : BState} {root : Nat} (hb : addAll (BState.new rows cols) ks = .ok s)
    (hf : s.finish = .ok (s', root)) (hev : s'.reg.evictions = 0) :
    ∀ a b, (a = 0 ∨ ∃ n, (a, n) ∈ storeOf s') → (b = 0 ∨ ∃ m, (b, m) ∈ storeOf s') →
      denOf (storeOf s') a = denOf (storeOf s') b → a = b := by
  have hreach := reachable_addAll ks (Reachable.new rows cols) hb
  obtain ⟨acc, hinv⟩ := reachable_inv hreach
  obtain ⟨g1, g2, _⟩ := (reg_einv rows cols 0).addAll _ hb ⟨rfl, rfl, Nat.zero_le _⟩
  have hL := layout_of_SInv (finish_spec hinv.core hf).sinv
  -- a set build inserts the value 0 only, so every output is 0 (the value bound at `M := 0`)
  -- and the language of a node determines the node
  have hB := addAll_bound (M := 0) ks _ s (Reachable.new rows cols) (InvB_new 0 rows cols) hb
  have hz := finish_bound hinv.core hB hf
  have hne := finish_targets_ne hinv.core (reachable_ne hreach) hf
  have hnd := C12_no_dup_finish hreach (by rw [g1, g2]; exact ⟨hr, hc⟩) hf hev
  intro a b ha hb' hden
  refine den_injective hL.good ?_ ?_ ?_ (a + b + 1) a b (Nat.lt_succ_of_le (Nat.le_add_right ..))
    (Nat.lt_succ_of_le (Nat.le_add_left ..)) ha hb' hden
  · intro a n hn
    obtain ⟨e, he, _, rfl⟩ := mem_storeOf_iff.mp hn
    obtain ⟨z1, z2⟩ := hz e he
    exact ⟨(hL.shape e he).2.1, Nat.le_zero.mp z1, fun t ht => Nat.le_zero.mp (z2 t ht),
      fun t ht => by rw [denOf_storeOf]; exact hne e he t ht⟩
  · intro a b n hna hnb
    obtain ⟨e1, he1, rfl, h1⟩ := mem_storeOf_iff.mp hna
    obtain ⟨e2, he2, rfl, h2⟩ := mem_storeOf_iff.mp hnb
    rw [nodup_map_inj (·.node) s'.out hnd e1 he1 e2 he2 (h1.trans h2.symm)]
  · intro a hs
    obtain ⟨e, he, _, h1⟩ := mem_storeOf_iff.mp hs
    have := (hL.shape e he).2.2.1
    rw [h1] at this
    simp [isEmptyFinal, sentinel] at this

namespace MinP

def exKeys : List Key := [[1, 2, 3], [1, 2, 4], [1, 5], [1, 5], [2, 2, 3], [2, 2, 4]]

/-- (evictions, emitted nodes, root address, emitted nodes pairwise distinct) of a set build -/
def runSet (rows cols : Nat) (ks : List Key) : Option (Nat × Nat × Nat × Bool) :=
  match addAll (BState.new rows cols) ks with
  | .ok s =>
    match s.finish with
    | .ok (s', r) => some (s'.reg.evictions, s'.out.length, r, decide (s'.out.map (·.node)).Nodup)
    | .error _ => none
  | .error _ => none

theorem runSet_some {rows cols : Nat} {ks : List Key} {ev len root : Nat} {nd : Bool}
    (h : runSet rows cols ks = some (ev, len, root, nd)) :
    ∃ s s', addAll (BState.new rows cols) ks = .ok s ∧ s.finish = .ok (s', root) ∧
      s'.reg.evictions = ev ∧ s'.out.length = len := by
  unfold runSet at h
  cases hs : addAll (BState.new rows cols) ks with
  | error e => rw [hs] at h; cases h
  | ok s =>
    rw [hs] at h
    simp only at h
    cases hf : s.finish with
    | error e => rw [hf] at h; cases h
    | ok r =>
      obtain ⟨s', root'⟩ := r
      rw [hf] at h
      simp only [Option.some.injEq, Prod.mk.injEq] at h
      obtain ⟨h1, h2, h3, _⟩ := h
      subst h3
      exact ⟨s, s', rfl, hf, h1, h2⟩

-- a small geometry without evictions (the crate's default, 10000 × 2, evaluates to the same result)
theorem runSet_8_2 : runSet 8 2 exKeys = some (0, 4, 37, true) := by decide +kernel

/-- no evictions: 4 nodes for a trie of 9 + 1 nodes, all distinct -/
example : runSet 8 2 exKeys = some (0, 4, 37, true) := runSet_8_2
example : prefixCount exKeys = 9 := by decide
/-- a 1×1 cache evicts, and the build then contains a duplicate node -/
example : runSet 1 1 exKeys = some (4, 5, 41, false) := by decide +kernel
/-- a cache without cells rejects everything: no evictions, but duplicates -/
example : runSet 0 0 exKeys = some (0, 5, 41, false) := by decide +kernel

end MinP

/-- C12, every transition of a finished build leads to a state with a non-empty right language
(any mode, any geometry) -/
theorem C12_targets_nonempty {s s' : BState} {root : Nat} (hr : Reachable s)
    (hf : s.finish = .ok (s', root)) :
    ∀ e ∈ s'.out, ∀ t ∈ e.node.trans, denOf (storeOf s') t.addr ≠ [] := by
  obtain ⟨acc, hinv⟩ := reachable_inv hr
  rw [denOf_storeOf]
  exact finish_targets_ne hinv.core (reachable_ne hr) hf

/-- C12, minimality of sets: non-decreasing keys always build; the root spells exactly the
distinct keys; and without evictions the states (emitted nodes and the address-0 empty final
node) correspond one to one to their right languages, i.e. the automaton is the minimal
acyclic DFA of the keys. (Every emitted node is reachable from the root: `finish_reach` in
`Proofs/BuildReach.lean`; every transition target has a non-empty right language:
`C12_targets_nonempty`.) -/
theorem C12_minimal_set (rows cols : Nat) (hr : 1 ≤ rows) (hc : 1 ≤ cols) (ks : List Key)
    (h : SortedKeysLe ks) :
    ∃ s s' root, addAll (BState.new rows cols) ks = .ok s ∧ s.finish = .ok (s', root) ∧
      denOf (storeOf s') root = zeroKV (dedupKeys ks) ∧
      (root = 0 ∨ ∃ n, (root, n) ∈ storeOf s') ∧
      (∀ e ∈ s'.out, ∀ t ∈ e.node.trans, denOf (storeOf s') t.addr ≠ []) ∧
      (s'.reg.evictions = 0 →
        ∀ a b, (a = 0 ∨ ∃ n, (a, n) ∈ storeOf s') → (b = 0 ∨ ∃ m, (b, m) ∈ storeOf s') →
          denOf (storeOf s') a = denOf (storeOf s') b → a = b) := by
  obtain ⟨s, s', root, e1, f1, _, f3, _, f5⟩ := build_ok_set rows cols ks h
  exact ⟨s, s', root, e1, f1, f3, f5,
    C12_targets_nonempty (reachable_addAll ks (Reachable.new rows cols) e1) f1,
    fun hev => C12_minimal_set_of hr hc e1 f1 hev⟩

example : SortedKeysLe MinP.exKeys := by simp [MinP.exKeys, SortedKeysLe, lexLe, lexLt]

/-- a concrete finished set build without evictions (8 rows × 2 columns) -/
theorem MinP.ex_run : ∃ s s' root, Reachable s ∧ (1 ≤ s.reg.rows ∧ 1 ≤ s.reg.cols) ∧
    addAll (BState.new 8 2) MinP.exKeys = .ok s ∧ s.finish = .ok (s', root) ∧
    s'.reg.evictions = 0 ∧ s'.out.length = 4 := by
  obtain ⟨s, s', hs, hf, h1, h2⟩ := MinP.runSet_some MinP.runSet_8_2
  obtain ⟨g1, g2, _⟩ := (reg_einv 8 2 0).addAll _ hs ⟨rfl, rfl, Nat.zero_le _⟩
  exact ⟨s, s', 37, reachable_addAll _ (Reachable.new 8 2) hs, by rw [g1, g2]; omega, hs, hf, h1, h2⟩

/-- the hypotheses of `C12_no_dup_finish`, `C12_trie_bound_set` and `C12_minimal_set_of` are
satisfiable together, by a build of 5 distinct keys into 4 nodes -/
example : ∃ s s' root, addAll (BState.new 8 2) MinP.exKeys = .ok s ∧ s.finish = .ok (s', root) ∧
    (s'.out.map (·.node)).Nodup ∧ s'.out.length ≤ prefixCount MinP.exKeys + 1 ∧
    (∀ a b, (a = 0 ∨ ∃ n, (a, n) ∈ storeOf s') → (b = 0 ∨ ∃ m, (b, m) ∈ storeOf s') →
      denOf (storeOf s') a = denOf (storeOf s') b → a = b) := by
  obtain ⟨s, s', root, hr, hnr, hb, hf, hev, _⟩ := MinP.ex_run
  exact ⟨s, s', root, hb, hf, C12_no_dup_finish hr hnr hf hev,
    (C12_trie_bound_set 8 2 _ hb hf).2, C12_minimal_set_of (by omega) (by omega) hb hf hev⟩

end Fst
