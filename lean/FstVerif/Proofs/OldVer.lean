import FstVerif.Proofs.OldVerFile
import FstVerif.Proofs.Lookup
import FstVerif.Proofs.Seek
/-
C10 (old format versions), main results: a file in format version 1, 2 or 3 written by the
reference encoder `Spec.encodeFst version ty kvs style share` (the Lean twin of
`harness/src/refenc.rs`; the driver diffs the two byte for byte on every run) opens and answers
every query exactly according to `kvs`, for every `style` (1 = values on the transitions, anything
else = on the final outputs) and `share`.

`C10_read` is the hub; `C10_get`, `C10_contains`, `C10_stream` instantiate the generic algorithms
on it. Pieces: `Proofs/OldVerCodec.lean` (node codec at every version), `Proofs/OldVerTrie.lean`
(the trie encoder at the store level), `Proofs/OldVerFile.lean` (the file).
-/
namespace Fst
namespace OldVer
open Spec

/-- the nodes the reference encoder wrote, in emission order -/
def encStore (version : Nat) (kvs : KV) (style : Nat) (share : Bool) : Store :=
  (rst (encodeState version kvs style share).2.emits).reverse

/-- what every address of that store spells -/
def encDen (version : Nat) (kvs : KV) (style : Nat) (share : Bool) : Nat → KV :=
  denE (encodeState version kvs style share).2.emits

/-- the root address the reference encoder wrote into the footer -/
def encRoot (version : Nat) (kvs : KV) (style : Nat) (share : Bool) : Nat :=
  (encodeState version kvs style share).1

/-- the hypotheses on the input of the reference encoder -/
structure Input (version ty : Nat) (kvs : KV) (style : Nat) (share : Bool) : Prop where
  ver : version = 1 ∨ version = 2 ∨ version = 3
  sorted : SortedKV kvs
  values : ∀ kv ∈ kvs, kv.2 < 2^64
  tyLt : ty < 2^64
  lenLt : kvs.length < 2^64
  size : (encodeFst version ty kvs style share).length < 2^64

/-- **C10, read side**: the file opens with the written metadata, and the reader of its version
represents a good store whose root spells exactly `kvs`. -/
theorem C10_read (version ty : Nat) (kvs : KV) (style : Nat) (share : Bool)
    (h : Input version ty kvs style share) :
    let bytes := encodeFst version ty kvs style share
    let st := encStore version kvs style share
    let den := encDen version kvs style share
    ∃ m, fstNew (Src.ofList bytes) = .ok m ∧
      m.version = version ∧ m.ty = ty ∧ m.len = kvs.length ∧
      m.rootAddr = encRoot version kvs style share ∧
      (m.checksum = none ↔ version ≤ 2) ∧
      Represents (byteAccess version (Src.ofList bytes)) st ∧
      GoodStore st den ∧ den m.rootAddr = kvs ∧
      (m.rootAddr = 0 ∨ ∃ n, (m.rootAddr, n) ∈ st) ∧
      fstVerify m (Src.ofList bytes) = (if version ≤ 2 then .err .checksumMissing else .ok ()) := by
  intro bytes st den
  have hv1 : 1 ≤ version := by rcases h.ver with h | h | h <;> omega
  have hv3 : version ≤ 3 := by rcases h.ver with h | h | h <;> omega
  obtain ⟨hm, hver⟩ :=
    encode_open version ty kvs style share hv1 hv3 h.sorted h.values h.tyLt h.lenLt h.size
  obtain ⟨hinv, _, haddr, hden, _⟩ := encode_spec version kvs style share h.sorted h.values
  refine ⟨_, hm, rfl, rfl, rfl, rfl, ?_,
    encode_represents version ty kvs style share h.sorted h.values h.size,
    hinv.ok.storeOK.goodStore, hden,
    haddr.2.imp id fun ⟨n, hn⟩ => ⟨n, List.mem_reverse.mpr hn⟩, hver⟩
  show (if version ≤ 2 then none else some _) = none ↔ version ≤ 2
  by_cases h2 : version ≤ 2
  · simp only [h2, if_true]
  · simp only [h2, if_false, reduceCtorEq]

/-- **C10, `get`** (a reader of the file's own version) -/
theorem C10_get (version ty : Nat) (kvs : KV) (style : Nat) (share : Bool)
    (h : Input version ty kvs style share) :
    ∃ m, fstNew (Src.ofList (encodeFst version ty kvs style share)) = .ok m ∧
      ∀ key, fstGet (byteAccess m.version (Src.ofList (encodeFst version ty kvs style share)))
        m.rootAddr key = some (lookupKV kvs key) := by
  obtain ⟨m, hm, hv, _, _, _, _, hrep, hg, hden, hroot, _⟩ := C10_read version ty kvs style share h
  refine ⟨m, hm, fun key => ?_⟩
  rw [hv, fstGet_correct hg hrep m.rootAddr hroot key, hden]

theorem C10_contains (version ty : Nat) (kvs : KV) (style : Nat) (share : Bool)
    (h : Input version ty kvs style share) :
    ∃ m, fstNew (Src.ofList (encodeFst version ty kvs style share)) = .ok m ∧
      ∀ key, fstContains (byteAccess m.version (Src.ofList (encodeFst version ty kvs style share)))
        m.rootAddr key = some (kvs.any fun kv => kv.1 == key) := by
  obtain ⟨m, hm, hv, _, _, _, _, hrep, hg, hden, hroot, _⟩ := C10_read version ty kvs style share h
  refine ⟨m, hm, fun key => ?_⟩
  rw [hv, fstContains_correct hg hrep m.rootAddr hroot key, hden]

/-- **C10, streams**: every range, every automaton obeying the contract of `stream_correct` -/
theorem C10_stream {σ : Type} (version ty : Nat) (kvs : KV) (style : Nat) (share : Bool)
    (h : Input version ty kvs style share) (A : Aut σ)
    (hEof : ∀ x, A.acceptEof x = none)
    (hCan : ∀ x, A.canMatch x = false → ∀ w, A.isMatch (A.run x w) = false)
    (min max : Bound) :
    ∃ m, fstNew (Src.ofList (encodeFst version ty kvs style share)) = .ok m ∧
      ∃ s0, streamNew (byteAccess m.version (Src.ofList (encodeFst version ty kvs style share)))
          A m.rootAddr min max = some s0 ∧
      ∃ N, ∀ fuel, N ≤ fuel →
        streamCollect (byteAccess m.version (Src.ofList (encodeFst version ty kvs style share)))
            A m.rootAddr fuel s0 [] =
          some ((kvs.filter fun kv =>
                  lowerOK min kv.1 && upperOK max kv.1 && A.accepts kv.1).map
                  fun kv => (kv.1, kv.2, A.run A.start kv.1)) := by
  obtain ⟨m, hm, hv, _, _, _, _, hrep, hg, hden, hroot, _⟩ := C10_read version ty kvs style share h
  refine ⟨m, hm, ?_⟩
  have := stream_correct hg hrep m.rootAddr hroot hEof hCan min max
  rw [hden] at this
  rw [hv]
  exact this

theorem C10_verify (version ty : Nat) (kvs : KV) (style : Nat) (share : Bool)
    (h : Input version ty kvs style share) :
    ∃ m, fstNew (Src.ofList (encodeFst version ty kvs style share)) = .ok m ∧
      fstVerify m (Src.ofList (encodeFst version ty kvs style share)) =
        (if version ≤ 2 then .err .checksumMissing else .ok ()) := by
  obtain ⟨m, hm, _, _, _, _, _, _, _, _, _, hver⟩ := C10_read version ty kvs style share h
  exact ⟨m, hm, hver⟩

/-- 40 two-byte keys under one 40-way node (above the index threshold) plus a shared tail and
the empty key -/
def ex40 : KV :=
  ([], 3) :: ((List.range 40).map fun i => ([97, UInt8.ofNat (3 * i)], 5 + i)) ++ [([98, 7], 1000)]

theorem ex40_sorted : SortedKV ex40 := by
  apply PSorted.sortedKV
  unfold PSorted ex40
  decide +kernel

/-- version 1 (no index, no checksum), values on the transitions, with sharing -/
theorem ex40_input_v1 : Input 1 7 ex40 1 true where
  ver := Or.inl rfl
  sorted := ex40_sorted
  values := by decide +kernel
  tyLt := by decide
  lenLt := by decide +kernel
  size := by decide +kernel

/-- version 2 (index, no checksum), values on the final outputs, no sharing -/
theorem ex40_input_v2 : Input 2 7 ex40 0 false where
  ver := Or.inr (Or.inl rfl)
  sorted := ex40_sorted
  values := by decide +kernel
  tyLt := by decide
  lenLt := by decide +kernel
  size := by decide +kernel

/-- version 3 (index and checksum), values on the transitions, with sharing -/
theorem ex40_input_v3 : Input 3 0 ex40 1 true where
  ver := Or.inr (Or.inr rfl)
  sorted := ex40_sorted
  values := by decide +kernel
  tyLt := by decide
  lenLt := by decide +kernel
  size := by decide +kernel

example : ∃ m, fstNew (Src.ofList (encodeFst 1 7 ex40 1 true)) = .ok m ∧
    ∀ key, fstGet (byteAccess m.version (Src.ofList (encodeFst 1 7 ex40 1 true))) m.rootAddr key
      = some (lookupKV ex40 key) := C10_get 1 7 ex40 1 true ex40_input_v1

example : ∃ m, fstNew (Src.ofList (encodeFst 2 7 ex40 0 false)) = .ok m ∧
    fstVerify m (Src.ofList (encodeFst 2 7 ex40 0 false)) = .err .checksumMissing :=
  C10_verify 2 7 ex40 0 false ex40_input_v2

example : ∃ m, fstNew (Src.ofList (encodeFst 3 0 ex40 1 true)) = .ok m ∧
    fstVerify m (Src.ofList (encodeFst 3 0 ex40 1 true)) = .ok () :=
  C10_verify 3 0 ex40 1 true ex40_input_v3

/-- the three files differ as the format says: version 2 has the 256-byte index of the 40-way node
(and wider deltas across it), version 3 = version 2 + 4 checksum bytes -/
example : (encodeFst 2 0 ex40 1 true).length ≥ (encodeFst 1 0 ex40 1 true).length + 256 ∧
    (encodeFst 3 0 ex40 1 true).length = (encodeFst 2 0 ex40 1 true).length + 4 := by
  decide +kernel

end OldVer
end Fst

