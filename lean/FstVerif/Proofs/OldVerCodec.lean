import FstVerif.Proofs.Codec
import FstVerif.Spec.Encode
/-
C10, node level: the reference encoder `Spec.compileNodeV version` (Spec/Encode.lean) writes the
transition index only for `version ≥ 2`. Read by the reader of the same version, the index bytes
written are always those the reader skips, so the results here are the instances `w = v` of
`Written.decodes` / `represents_of_laidBy` (Proofs/Codec.lean), without the guard of `codec_seg`
(suffix `V`: for the versioned encoder); for version 1 `find_input` is the linear scan up to 256
transitions.
-/
namespace Fst

/-- For format versions ≥ 2 the versioned reference encoder writes exactly the bytes of the
shipped node encoder `compileNode`. (`lastAddr ≠ 0`: the reference encoder never takes the
`StateOneTransNext` form for a target 0, `compileNode` relies on its caller for that.) -/
theorem Spec.compileNodeV_ge2 {v : Nat} (hv : 2 ≤ v) (n : BNode) (lastAddr start : Nat)
    (hl : lastAddr ≠ 0) : Spec.compileNodeV v n lastAddr start = compileNode n lastAddr start := by
  have : (fun t : Tr => t.addr = lastAddr && t.out = 0 && t.addr != 0)
      = fun t => t.addr = lastAddr && t.out = 0 := by
    funext t
    by_cases h1 : t.addr = lastAddr
    · simp [h1, hl]
    · simp [h1]
  rw [compileNodeV_eq_with, compileNode_eq_with, this]
  unfold compileWith
  rw [compileAnyV_ge2 hv, compileAnyV_ge2 (Nat.le_refl 2)]

namespace OldVer
open Spec

theorem codec_segV (v : Nat) (n : BNode) (lastAddr start : Nat) (enc l : List UInt8)
    (wf : WFNode n lastAddr start) (henc : compileNodeV v n lastAddr start = some enc)
    (hseg : Seg l start enc) :
    enc ≠ [] ∧ ∃ rn, nodeNew v (Src.ofList l) (start + enc.length - 1) = some rn ∧
      Decodes (Src.ofList l) rn n start (start + enc.length - 1) :=
  have W := compileNodeV_written wf henc
  ⟨W.ne_nil, W.decodes rfl wf hseg⟩

theorem compileNodeV_isSome (v : Nat) (n : BNode) (lastAddr start : Nat) (h : n.trans.length ≤ 256) :
    ∃ enc, compileNodeV v n lastAddr start = some enc :=
  compileWith_isSome v _ n start h

/-- the hypotheses are satisfiable: the final 40-transition node of `Proofs/Codec.lean` (`exBig`),
above the index threshold, written in version 1 (no index: 256 bytes shorter than version 2) -/
example : ∃ enc enc2, compileNodeV 1 exBig 99999 100000 = some enc ∧ WFNode exBig 99999 100000 ∧
    compileNodeV 2 exBig 99999 100000 = some enc2 ∧ enc2.length = enc.length + 256 ∧
    Gen.TRANS_INDEX_THRESHOLD < exBig.trans.length :=
  ⟨_, _, rfl, exBig_wf, rfl, by decide +kernel, by decide⟩

/-- `es` = emitted nodes `(addr, node, encoding)`, laid out consecutively from byte offset `start`
by the version-`v` reference encoder -/
def LaidV (v : Nat) : Nat → List (Nat × BNode × List UInt8) → Prop :=
  LaidBy fun st e => ∃ last, WFNode e.2.1 last st ∧ compileNodeV v e.2.1 last st = some e.2.2

theorem byteAccess_representsV (v : Nat) (es : List (Nat × BNode × List UInt8))
    (header post : List UInt8) (hl : LaidV v header.length es) :
    Represents (byteAccess v (Src.ofList (header ++ es.flatMap (·.2.2) ++ post)))
      (es.map fun e => (e.1, e.2.1)) :=
  represents_of_laidBy v (fun _ _ ⟨last, wf, henc⟩ => ⟨v, last, wf, compileNodeV_written wf henc, rfl⟩)
    es header post hl

end OldVer
end Fst
