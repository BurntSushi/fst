import FstVerif.Proofs.OldVerTrie
import FstVerif.Proofs.Frame
/-
C10 (old format versions): the bytes of the reference encoder are a `frame`
(Proofs/Frame.lean) that opens with the written metadata (`encode_open`) and whose node access
returns exactly the written nodes (`encode_represents`).
-/
namespace Fst
namespace OldVer
open Spec OpenProofs

theorem encodeFst_frame (version ty : Nat) (kvs : KV) (style : Nat) (share : Bool) :
    encodeFst version ty kvs style share = frame version ty
      (nodeBytes (encodeState version kvs style share).2) kvs.length
      (encodeState version kvs style share).1 := rfl

theorem encode_open (version ty : Nat) (kvs : KV) (style : Nat) (share : Bool)
    (hv1 : 1 ≤ version) (hv3 : version ≤ 3)
    (hs : SortedKV kvs) (hval : ∀ kv ∈ kvs, kv.2 < 2^64)
    (hty : ty < 2^64) (hlen : kvs.length < 2^64)
    (hsz : (encodeFst version ty kvs style share).length < 2^64) :
    let m : Meta := ⟨version, (encodeState version kvs style share).1, ty, kvs.length,
      if version ≤ 2 then none else some (E2E.crcOf (encodeBody version ty kvs style share))⟩
    fstNew (Src.ofList (encodeFst version ty kvs style share)) = .ok m ∧
      fstVerify m (Src.ofList (encodeFst version ty kvs style share)) =
        (if version ≤ 2 then .err .checksumMissing else .ok ()) := by
  obtain ⟨hinv, _, haddr, _, hroot0⟩ := encode_spec version kvs style share hs hval
  have hnb : 16 + (nodeBytes (encodeState version kvs style share).2).length =
      (encodeState version kvs style share).2.len := hinv.ok.laid.1
  rw [encodeFst_frame] at hsz ⊢
  have hle := le_frame_length version ty (nodeBytes (encodeState version kvs style share).2)
    kvs.length (encodeState version kvs style share).1
  exact frame_open version ty kvs.length (encodeState version kvs style share).1
    (nodeBytes (encodeState version kvs style share).2) hv1 hv3 hty hlen
    -- the root lies inside the node bytes (`haddr`, `hnb`), the node bytes inside the file (`hle`, `hsz`)
    (by have := haddr.1; omega) (fun h0 => by rw [nodeBytes, hroot0 h0]; rfl)

theorem encode_represents (version ty : Nat) (kvs : KV) (style : Nat) (share : Bool)
    (hs : SortedKV kvs) (hval : ∀ kv ∈ kvs, kv.2 < 2^64)
    (hsz : (encodeFst version ty kvs style share).length < 2^64) :
    Represents (byteAccess version (Src.ofList (encodeFst version ty kvs style share)))
      (rst (encodeState version kvs style share).2.emits).reverse := by
  obtain ⟨hinv, hver, _, _, _⟩ := encode_spec version kvs style share hs hval
  have hnb : 16 + (nodeBytes (encodeState version kvs style share).2).length =
      (encodeState version kvs style share).2.len := hinv.ok.laid.1
  rw [encodeFst_frame] at hsz ⊢
  have hle := le_frame_length version ty (nodeBytes (encodeState version kvs style share).2)
    kvs.length (encodeState version kvs style share).1
  obtain ⟨post, hpost⟩ := frame_split version ty (nodeBytes (encodeState version kvs style share).2)
    kvs.length (encodeState version kvs style share).1
  rw [hpost]
  generalize encodeState version kvs style share = r at *
  have hlaid := hinv.ok.laid.2.2 (by omega)
  rw [hver] at hlaid
  have := byteAccess_representsV version r.2.emits.reverse (u64le version ++ u64le ty) post
    (by simpa [u64le_length] using hlaid)
  rw [show (r.2.emits.reverse.map fun e => (e.1, e.2.1)) = (rst r.2.emits).reverse by
    simp [rst, List.map_reverse]] at this
  exact this

/-- non-vacuity (version 1, a 4-key map; larger examples in `Proofs/OldVer.lean`) -/
example : SortedKV [([97], 1), ([97, 98], 2), ([98], 7), ([98, 98], 8)] ∧
    (∀ kv ∈ [([97], 1), ([97, 98], 2), ([98], 7), ([98, 98], 8)], kv.2 < 2^64) ∧
    (encodeFst 1 5 [([97], 1), ([97, 98], 2), ([98], 7), ([98, 98], 8)] 0 true).length < 2^64 := by
  refine ⟨by simp only [SortedKV]; decide, by decide, by decide +kernel⟩

end OldVer
end Fst
