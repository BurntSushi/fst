import FstVerif.Model.Reader
import FstVerif.Proofs.Bytes
/-
C20 (opening and verifying never panic) and the gate facts of C10, for
`fstNew` / `fstVerify` (mirrors of `Fst::new` / `Fst::verify`, `src/raw/mod.rs`).
-/
namespace Fst
namespace OpenProofs

/-- the format version compiled into the crate (Gen/Tables.lean) is the `3` the statements name -/
theorem version_pinned : Gen.VERSION = 3 := rfl

theorem read_ofList_none (bs : List UInt8) : ∀ (n i : Nat), bs.length < i + (n+1) →
    (Src.ofList bs).read i (n+1) = none := by
  intro n
  induction n with
  | zero =>
    intro i h
    have hi : bs.length ≤ i := Nat.le_of_lt_succ h
    simp [Src.read, Src.ofList, hi]
  | succ n ih =>
    intro i h
    by_cases hi : i < bs.length
    · have ih := ih (i+1) (by omega)
      rw [Src.read, ih]
      cases (Src.ofList bs).get i <;> rfl
    · have hi : bs.length ≤ i := Nat.not_lt.mp hi
      rw [Src.read]
      simp [Src.ofList, hi]

theorem read_ofList_isSome (bs : List UInt8) (i n : Nat) (hn : 1 ≤ n) :
    ((Src.ofList bs).read i n).isSome ↔ i + n ≤ bs.length := by
  obtain ⟨k, rfl⟩ : ∃ k, n = k + 1 := ⟨n - 1, by omega⟩
  constructor
  · intro h
    by_cases hb : i + (k+1) ≤ bs.length
    · exact hb
    · rw [read_ofList_none bs k i (by omega)] at h; cases h
  · intro h; rw [read_ofList bs _ _ h]; rfl

theorem unpackAt_ofList (bs : List UInt8) (i n : Nat) (h : i + n ≤ bs.length) :
    (Src.ofList bs).unpackAt i n = some (unpack ((bs.drop i).take n)) := by
  simp [Src.unpackAt, read_ofList bs n i h]

theorem unpackAt_ofList_isSome (bs : List UInt8) (i n : Nat) (hn : 1 ≤ n) :
    ((Src.ofList bs).unpackAt i n).isSome ↔ i + n ≤ bs.length := by
  simp only [Src.unpackAt, Option.isSome_map]
  exact read_ofList_isSome bs i n hn

theorem size_ofList (bs : List UInt8) : (Src.ofList bs).size = bs.length := rfl

/-- the version field of the header -/
def versionOf (bs : List UInt8) : Nat := unpack (bs.take 8)

theorem unpackAt_version (bs : List UInt8) (h : 32 ≤ bs.length) :
    (Src.ofList bs).unpackAt 0 8 = some (versionOf bs) := by
  rw [unpackAt_ofList bs 0 8 (by omega)]; simp [versionOf]

theorem C10_short (bs : List UInt8) (h : bs.length < 32) :
    fstNew (Src.ofList bs) = .err (.format bs.length) := by
  simp [fstNew, size_ofList, h]

theorem C10_version (bs : List UInt8) (h : 32 ≤ bs.length)
    (hv : versionOf bs = 0 ∨ versionOf bs > Gen.VERSION) :
    fstNew (Src.ofList bs) = .err (.version Gen.VERSION (versionOf bs)) := by
  have h' : ¬ bs.length < 32 := by omega
  simp only [fstNew, size_ofList, h', ↓reduceIte, unpackAt_version bs h, hv]

theorem C10_v3_short (bs : List UInt8) (hv : versionOf bs = 3) (h : bs.length < 36) :
    fstNew (Src.ofList bs) = .err (.format bs.length) := by
  by_cases h32 : bs.length < 32
  · exact C10_short bs h32
  · have hnv : ¬ (versionOf bs = 0 ∨ versionOf bs > Gen.VERSION) := by
      rw [hv, version_pinned]; omega
    have h3 : versionOf bs ≥ 3 ∧ bs.length < 36 := ⟨by omega, h⟩
    simp only [fstNew, size_ofList, h32, ↓reduceIte, unpackAt_version bs (by omega), hnv, h3,
      and_self]

/-- Everything `fstNew` does after the gates, for in-range versions; `k` is the number of
checksum bytes. The right side is an `if` under `let`s: take it apart with `of_eq_ite`
(as `fstNew_cases` does), `split` picks the inner test. -/
theorem fstNew_eq (bs : List UInt8) (h32 : 32 ≤ bs.length)
    (hv1 : 1 ≤ versionOf bs) (hv3 : versionOf bs ≤ 3)
    (h36 : versionOf bs = 3 → 36 ≤ bs.length) :
    let n := bs.length
    let v := versionOf bs
    let k := if v ≤ 2 then 0 else 4
    let ck : Option Nat := if v ≤ 2 then none else some (unpack ((bs.drop (n - k)).take k))
    let rootAddr := unpack ((bs.drop (n - k - 8)).take 8)
    let len := unpack ((bs.drop (n - k - 16)).take 8)
    let ty := unpack ((bs.drop 8).take 8)
    fstNew (Src.ofList bs) =
      if (rootAddr = EMPTY_ADDRESS ∧ n ≠ 32 + k) ∧ rootAddr + (17 + k) ≠ n
      then .err (.format n)
      else .ok { version := v, rootAddr, ty, len, checksum := ck } := by
  have h' : ¬ bs.length < 32 := Nat.not_lt.mpr h32
  have hnv : ¬ (versionOf bs = 0 ∨ versionOf bs > Gen.VERSION) := by
    rw [version_pinned]; omega
  have h3 : ¬ (versionOf bs ≥ 3 ∧ bs.length < 36) := fun h =>
    Nat.not_le.mpr h.2 (h36 (Nat.le_antisymm hv3 h.1))
  -- the `let`s of the statement stay in the goal: `simp only` unfolds them on both sides
  simp only [fstNew, size_ofList, h', ↓reduceIte, unpackAt_version bs h32, hnv, h3,
    unpackAt_ofList bs 8 8 (Nat.le_trans (by decide) h32)]
  by_cases hle : versionOf bs ≤ 2
  · have e16 : ¬ bs.length < 16 := Nat.not_lt.mpr (Nat.le_trans (by decide) h32)
    simp only [hle, ↓reduceIte, e16, Nat.sub_zero, Nat.add_zero,
      unpackAt_ofList bs (bs.length - 8) 8 (by omega),
      unpackAt_ofList bs (bs.length - 16) 8 (by omega)]
  · have h36' : 36 ≤ bs.length := h36 (Nat.le_antisymm hv3 (Nat.not_le.mp hle))
    have e4 : ¬ bs.length < 4 := Nat.not_lt.mpr (Nat.le_trans (by decide) h32)
    have e16 : ¬ bs.length - 4 < 16 :=
      Nat.not_lt.mpr (Nat.le_sub_of_add_le (Nat.le_trans (by decide) h36'))
    simp only [hle, ↓reduceIte, e4, unpackAt_ofList bs (bs.length - 4) 4 (by omega),
      Option.map_some, e16, Nat.reduceAdd,
      unpackAt_ofList bs (bs.length - 4 - 8) 8 (by omega),
      unpackAt_ofList bs (bs.length - 4 - 16) 8 (by omega)]

theorem of_eq_ite {α : Type} {x : α} {c : Prop} [Decidable c] {a b : α}
    (h : x = ite c a b) : x = a ∨ x = b := by split at h <;> simp [h]

/-- what the record `m` of a successful open says about the bytes -/
structure Opened (bs : List UInt8) (m : Meta) : Prop where
  version : m.version = versionOf bs
  pos : 1 ≤ m.version
  le3 : m.version ≤ 3
  len : 32 ≤ bs.length
  noChecksum : m.version ≤ 2 → m.checksum = none
  v3 : m.version = 3 → 36 ≤ bs.length ∧ m.checksum.isSome

/-- `fstNew` returns an error, or a record with a supported version and with a checksum exactly in version 3. -/
theorem fstNew_cases (bs : List UInt8) :
    (∃ e, fstNew (Src.ofList bs) = .err e) ∨ ∃ m, fstNew (Src.ofList bs) = .ok m ∧ Opened bs m := by
  by_cases h32 : bs.length < 32
  · exact .inl ⟨_, C10_short bs h32⟩
  have h32 := Nat.not_lt.mp h32
  by_cases hv : versionOf bs = 0 ∨ versionOf bs > Gen.VERSION
  · exact .inl ⟨_, C10_version bs h32 hv⟩
  rw [version_pinned, not_or, Nat.not_lt] at hv
  have hv1 := Nat.pos_of_ne_zero hv.1
  by_cases h36 : versionOf bs = 3 ∧ bs.length < 36
  · exact .inl ⟨_, C10_v3_short bs h36.1 h36.2⟩
  have := fstNew_eq bs h32 hv1 hv.2 (by omega)
  simp only at this
  rcases of_eq_ite this with this | this
  · exact .inl ⟨_, this⟩
  · refine .inr ⟨_, this, rfl, hv1, hv.2, h32, ?_, ?_⟩
    · intro hle; simp only at hle; simp [hle]
    · intro h3; simp only at h3
      have : ¬ versionOf bs ≤ 2 := by omega
      refine ⟨by omega, ?_⟩
      simp [this]

/-- what a successful open says about the metadata and the length -/
theorem fstNew_ok (bs : List UInt8) (m : Meta) (hm : fstNew (Src.ofList bs) = .ok m) : Opened bs m := by
  rcases fstNew_cases bs with ⟨e, he⟩ | ⟨m', hm', h⟩
  · rw [he] at hm; cases hm
  · rw [hm'] at hm; cases hm; exact h

/-- `Fst::new` never panics, whatever the bytes: every slice it takes is in bounds. -/
theorem C20_open_total (bs : List UInt8) : ∀ tag, fstNew (Src.ofList bs) ≠ .panic tag := by
  intro tag h
  rcases fstNew_cases bs with ⟨e, he⟩ | ⟨m, hm, _⟩
  · rw [he] at h; cases h
  · rw [hm] at h; cases h

/-- `Fst::verify` on a slice of at least four bytes, whatever the metadata: the slice
`as_bytes()[..len-4]` is in bounds. -/
theorem fstVerify_ofList (m : Meta) (bs : List UInt8) (h4 : 4 ≤ bs.length) :
    fstVerify m (Src.ofList bs) =
      match m.checksum with
      | none => .err .checksumMissing
      | some expected =>
        let got := (maskedSum (crc32cSlice16 0 (bs.take (bs.length - 4)))).toNat
        if expected = got then .ok () else .err (.checksumMismatch expected got) := by
  unfold fstVerify
  cases m.checksum with
  | none => rfl
  | some c =>
    simp only [size_ofList, Nat.not_lt.mpr h4, if_false, Src.prefix,
      read_ofList bs (bs.length - 4) 0 (by omega), List.drop_zero]

/-- `verify` accepts exactly when the stored checksum is that of the bytes before it -/
theorem fstVerify_ok_iff (m : Meta) (body ck : List UInt8) (hck : ck.length = 4) :
    fstVerify m (Src.ofList (body ++ ck)) = .ok ()
      ↔ m.checksum = some (maskedSum (crc32cSlice16 0 body)).toNat := by
  rw [fstVerify_ofList m _ (by rw [List.length_append]; omega), List.length_append, hck,
    Nat.add_sub_cancel, List.take_left' rfl]
  cases m.checksum with
  | none => simp
  | some e => simp only [Option.some.injEq]; split <;> simp [*]

/-- The full outcome of `verify` on an opened FST. -/
theorem verify_eq (bs : List UInt8) (m : Meta) (hm : fstNew (Src.ofList bs) = .ok m) :
    fstVerify m (Src.ofList bs) =
      match m.checksum with
      | none => .err .checksumMissing
      | some expected =>
        let got := (maskedSum (crc32cSlice16 0 (bs.take (bs.length - 4)))).toNat
        if expected = got then .ok () else .err (.checksumMismatch expected got) :=
  fstVerify_ofList m bs (Nat.le_trans (by decide) (fstNew_ok bs m hm).len)

/-- `Fst::verify` on an opened FST never panics. -/
theorem C20_verify_total (bs : List UInt8) (m : Meta) (hm : fstNew (Src.ofList bs) = .ok m) :
    ∀ tag, fstVerify m (Src.ofList bs) ≠ .panic tag := by
  intro tag
  rw [verify_eq bs m hm]
  cases m.checksum with
  | none => simp
  | some c => simp only; split <;> simp

theorem C10_checksum_missing (bs : List UInt8) (m : Meta)
    (hm : fstNew (Src.ofList bs) = .ok m) (hv : m.version ≤ 2) :
    fstVerify m (Src.ofList bs) = .err .checksumMissing := by
  rw [fstVerify, (fstNew_ok bs m hm).noChecksum hv]

/-- the empty version-3 FST (36 bytes; checksum field left zero) -/
def emptyV3 : List UInt8 := u64le 3 ++ u64le 0 ++ u64le 0 ++ u64le 0 ++ u32le 0
/-- an empty version-2 FST (32 bytes) -/
def emptyV2 : List UInt8 := u64le 2 ++ u64le 0 ++ u64le 0 ++ u64le 0

example : fstNew (Src.ofList emptyV3) =
    .ok { version := 3, rootAddr := 0, ty := 0, len := 0, checksum := some 0 } := by decide +kernel
example : fstNew (Src.ofList emptyV2) =
    .ok { version := 2, rootAddr := 0, ty := 0, len := 0, checksum := none } := by decide +kernel
example : fstNew (Src.ofList (u64le 3)) = .err (.format 8) := C10_short _ (by decide)
example : fstNew (Src.ofList (u64le 4 ++ emptyV3.drop 8)) = .err (.version 3 4) :=
  C10_version _ (by decide) (by decide)
example : fstNew (Src.ofList (u64le 0 ++ emptyV3.drop 8)) = .err (.version 3 0) :=
  C10_version _ (by decide) (by decide)
example : fstNew (Src.ofList (u64le 3 ++ emptyV2.drop 8)) = .err (.format 32) :=
  C10_v3_short _ (by decide) (by decide)
example : fstVerify ⟨2, 0, 0, 0, none⟩ (Src.ofList emptyV2) = .err .checksumMissing :=
  C10_checksum_missing emptyV2 _ (by decide +kernel) (by decide)
-- root address gate: root address 0 with a non-empty length is refused
example : fstNew (Src.ofList (emptyV3 ++ [0])) = .err (.format 37) := by decide +kernel

end OpenProofs
end Fst
