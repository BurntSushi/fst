import FstVerif.Model.Ops
import FstVerif.Proofs.KeyOrder
/-
C05 — the heap-based set operations of `Model/Ops.lean` (mirror of `src/raw/ops.rs`) equal their
set-theoretic definitions, for every admissible tie-break `pop` of the heap (`PopSpec`):
`C05_union`, `C05_inter`, `C05_symdiff`, `C05_diff`, `C05_disjoint`, `C05_subset`, `C05_superset`.

Proof outline. `Rep h rem U` relates a `StreamHeap` to the logical remaining streams
`rem : Nat → KV` (slot of stream `i` in the heap, if any, followed by the reader's rest);
`U` is the set of streams that hold no slot although possibly non-empty (the lent `cur_slot`).
`refill`, `pop` preserve it (`rep_refill`, `rep_pop`); the popped slot is a lower bound of all
remaining keys (`ge_min`). The two drain loops of the model are one loop `drainWhile` with two
tests (`drainEqual_eq`, `drainLe_eq`), which both mean "key ≤ k" on what is left (the hypothesis on `c` of
`drainWhile_spec`, discharged in `round_spec` and `drainLe_spec`); it pops exactly
the items `≤ k` and leaves `dropLe k rem` (`drainWhile_spec`); at a lower bound `k` these are the
occurrences `occF n rem k` (`itemsLe_iv`). One round from a full heap (pop the minimum, drain its
equals) is a `next` of the union, with `NextOk` as its contract (`round_spec`). `filterLoop_spec`
describes one `next`, `collect_spec` the whole drain (fuel: `totalItems` strictly decreases), and
`sortedK_ext` (a strictly increasing list is determined by its members) turns the
characterisation of the emitted keys into an equation with `allKeys`. `Difference` is a program of its
own (`drainLe_spec`, `differenceNext_spec`, `diff_collect_spec`); the reader permutation of its
`swap_remove(0)` does not matter (`swapRemoved_perm`). At the end: example streams, a second admissible
tie-break `popMinLast`, and `occ_values` (the values of `occ streams k`, without the stream indices), which is
how the users of the C05 theorems read `occ`.
-/

namespace Fst.Ops

/-- what is assumed of `BinaryHeap::pop`: it removes one slot, and none is smaller. `Slot: Ord` is
the reverse of `(input, output)` (ops.rs, `impl PartialOrd for Slot`), so the heap's maximum is a
slot `s` with `slotLt x s = false` for every `x`; among equal `(input, output)` any may come. -/
def PopSpec (pop : PopFn) : Prop :=
  (∀ h, pop h = none ↔ h = []) ∧
  ∀ h s rest, pop h = some (s, rest) → (s :: rest).Perm h ∧ ∀ x ∈ h, slotLt x s = false

/-- `==` on keys decides equality. Spelt out, and named for the proofs that need it (`have := key_lawful`):
the search for `LawfulBEq Key` is slow. -/
theorem key_lawful : LawfulBEq Key := @List.instLawfulBEq _ _ instLawfulBEq

theorem key_beq {a b : Key} : (a == b) = true ↔ a = b := @beq_iff_eq _ _ key_lawful _ _

theorem slotLt_false {a b : Slot} : slotLt a b = false ↔
    lexLt a.input b.input = false ∧ (¬ a.input = b.input ∨ ¬ a.output < b.output) := by
  rw [slotLt, Bool.or_eq_false_iff, Bool.and_eq_false_iff, decide_eq_false_iff_not, ← not_congr key_beq,
    Bool.not_eq_true]

theorem slotLt_irrefl (a : Slot) : slotLt a a = false :=
  slotLt_false.2 ⟨lexLt_irrefl _, .inr (Nat.lt_irrefl _)⟩

theorem slotLt_asymm {a b : Slot} (h : slotLt a b = true) : slotLt b a = false := by
  simp only [slotLt, Bool.or_eq_true, Bool.and_eq_true, key_beq, decide_eq_true_eq] at h
  rw [slotLt_false]
  rcases h with h | ⟨h1, h2⟩
  · exact ⟨lexLt_asymm h, Or.inl (lexLt_ne h).symm⟩
  · refine ⟨by rw [h1]; exact lexLt_irrefl _, Or.inr (by omega)⟩

theorem lt_of_ge_ne {a k : Key} (h : lexLt a k = false) (hne : a ≠ k) : lexLt k a = true := by
  cases h' : lexLt k a with
  | true => rfl
  | false => exact absurd (lexLt_total h h') hne

theorem slotLt_negtrans {x m s : Slot} (h1 : slotLt x m = false) (h2 : slotLt m s = false) :
    slotLt x s = false := by
  rw [slotLt_false] at h1 h2 ⊢
  obtain ⟨a1, a2⟩ := h1
  obtain ⟨b1, b2⟩ := h2
  by_cases e1 : x.input = m.input
  · by_cases e2 : m.input = s.input
    · refine ⟨by rw [e1, e2]; exact lexLt_irrefl _, Or.inr ?_⟩
      have := a2.resolve_left (absurd e1)
      have := b2.resolve_left (absurd e2)
      omega
    · rw [e1]; exact ⟨b1, Or.inl e2⟩
  · have hmx : lexLt m.input x.input = true := lt_of_ge_ne a1 e1
    have hxs : lexLt x.input s.input = false := by
      cases h : lexLt x.input s.input with
      | false => rfl
      | true => rw [lexLt_trans hmx h] at b1; cases b1
    refine ⟨hxs, Or.inl ?_⟩
    intro e; rw [e] at hmx; rw [hmx] at b1; cases b1

theorem popMin_none (h : List Slot) : popMin h = none ↔ h = [] := by
  cases h with
  | nil => simp [popMin]
  | cons s rest =>
    simp only [popMin]
    split <;> (try split) <;> simp

/-- one step of a minimum search: whichever of the head `a` and the tail's minimum `m` is not beaten
by the other may be returned -/
theorem pop_step {a m : Slot} {t rest' : List Slot} (hp : (m :: rest').Perm t)
    (hmin : ∀ x ∈ t, slotLt x m = false) :
    (slotLt m a = false → ∀ x ∈ a :: t, slotLt x a = false) ∧
    (slotLt a m = false → (m :: a :: rest').Perm (a :: t) ∧ ∀ x ∈ a :: t, slotLt x m = false) := by
  refine ⟨fun h x hx => ?_, fun h => ⟨(List.Perm.swap _ _ _).trans (hp.cons a), fun x hx => ?_⟩⟩
  · rcases List.mem_cons.1 hx with rfl | hx
    · exact slotLt_irrefl _
    · exact slotLt_negtrans (hmin x hx) h
  · rcases List.mem_cons.1 hx with rfl | hx
    · exact h
    · exact hmin x hx

theorem popMin_some : ∀ (h : List Slot) s rest, popMin h = some (s, rest) →
    (s :: rest).Perm h ∧ ∀ x ∈ h, slotLt x s = false := by
  intro h
  induction h with
  | nil => simp [popMin]
  | cons a t ih =>
    intro s rest
    simp only [popMin]
    split
    · rename_i hn
      rw [popMin_none] at hn; subst hn
      simp only [Option.some.injEq, Prod.mk.injEq]
      rintro ⟨rfl, rfl⟩
      simp [slotLt_irrefl]
    · rename_i m rest' hm
      obtain ⟨hp, hmin⟩ := ih m rest' hm
      have hstep := pop_step (a := a) hp hmin
      split
      · rename_i hlt
        simp only [Option.some.injEq, Prod.mk.injEq]
        rintro ⟨rfl, rfl⟩
        exact hstep.2 (slotLt_asymm hlt)
      · rename_i hlt
        simp only [Option.some.injEq, Prod.mk.injEq]
        rintro ⟨rfl, rfl⟩
        exact ⟨List.Perm.refl _, hstep.1 (by simpa using hlt)⟩

theorem popSpec_popMin : PopSpec popMin := ⟨popMin_none, popMin_some⟩

def nth (l : List KV) (i : Nat) : KV := l[i]?.getD []

def upd (rem : Nat → KV) (j : Nat) (x : KV) : Nat → KV := fun i => if i = j then x else rem i

/-- `rem i` is the logical remaining part of stream `i` (the slot of `i` in the heap, if any,
followed by what the reader will still yield); streams in `U` are exactly those that hold no
slot although they may be non-empty (the lent `cur_slot`, or not yet filled). -/
structure Rep (h : SHeap) (rem : Nat → KV) (U : Nat → Prop) : Prop where
  nodup : (h.heap.map (·.idx)).Nodup
  slot : ∀ s ∈ h.heap, ¬ U s.idx ∧ s.idx < h.rdrs.length ∧
    rem s.idx = (s.input, s.output) :: nth h.rdrs s.idx
  noslot : ∀ i, (∀ s ∈ h.heap, s.idx ≠ i) → rem i = nth h.rdrs i ∧ (¬ U i → rem i = [])

theorem refill_cases (h : SHeap) (i : Nat) :
    (h.refill i = h ∧ nth h.rdrs i = []) ∨
    (∃ k v t, nth h.rdrs i = (k, v) :: t ∧ i < h.rdrs.length ∧
      h.refill i = ⟨h.rdrs.set i t, ⟨i, k, v⟩ :: h.heap⟩) := by
  unfold SHeap.refill nth
  cases hi : h.rdrs[i]? with
  | none => simp
  | some l =>
    have : i < h.rdrs.length := (List.getElem?_eq_some_iff.1 hi).1
    cases l with
    | nil => simp
    | cons kv t => obtain ⟨k, v⟩ := kv; right; exact ⟨k, v, t, by simp, this, rfl⟩

theorem refill_len (h : SHeap) (i : Nat) : (h.refill i).rdrs.length = h.rdrs.length := by
  rcases refill_cases h i with ⟨e, _⟩ | ⟨k, v, t, _, _, e⟩ <;> rw [e] <;> simp

theorem nth_set (l : List KV) (i j : Nat) (x : KV) (hi : i < l.length) :
    nth (l.set i x) j = if j = i then x else nth l j := by
  unfold nth
  rw [List.getElem?_set]
  by_cases e : i = j
  · subst e; simp [hi]
  · have : ¬ j = i := fun h => e h.symm
    simp [e, this]

theorem sumLen_set (l : List KV) (i : Nat) (kv : Key × Nat) (t : KV)
    (h : l[i]? = some (kv :: t)) :
    ((l.set i t).map List.length).sum + 1 = (l.map List.length).sum := by
  induction l generalizing i with
  | nil => simp at h
  | cons a r ih =>
    cases i with
    | zero =>
      rw [List.getElem?_cons_zero, Option.some.injEq] at h
      subst h; exact Nat.add_right_comm ..
    | succ i =>
      simp only [List.getElem?_cons_succ] at h
      simp only [List.set_cons_succ, List.map_cons, List.sum_cons]
      rw [Nat.add_assoc, ih i h]

theorem totalItems_refill (h : SHeap) (i : Nat) : totalItems (h.refill i) = totalItems h := by
  rcases refill_cases h i with ⟨e, _⟩ | ⟨k, v, t, hn, hi, e⟩
  · rw [e]
  · rw [e]; unfold totalItems
    have : h.rdrs[i]? = some ((k, v) :: t) := by
      unfold nth at hn
      rw [List.getElem?_eq_getElem hi] at hn ⊢
      simp at hn; rw [hn]
    have := sumLen_set h.rdrs i (k, v) t this
    simp only [List.length_cons]; omega

theorem rep_mono {h rem U U'} (r : Rep h rem U) (h1 : ∀ i, U' i → U i)
    (h2 : ∀ i, U i → ¬ U' i → rem i = []) : Rep h rem U' where
  nodup := r.nodup
  slot s hs := ⟨fun hu => (r.slot s hs).1 (h1 _ hu), (r.slot s hs).2⟩
  noslot i hi := ⟨(r.noslot i hi).1, fun hu => by
    by_cases hU : U i
    · exact h2 i hU hu
    · exact (r.noslot i hi).2 hU⟩

theorem rep_beyond {h rem U} (r : Rep h rem U) (i : Nat) (hi : h.rdrs.length ≤ i) : rem i = [] := by
  have : ∀ s ∈ h.heap, s.idx ≠ i := fun s hs e => by
    have := (r.slot s hs).2.1; omega
  rw [(r.noslot i this).1]
  simp [nth, List.getElem?_eq_none hi]

theorem rep_refill {h rem U} (r : Rep h rem U) (i : Nat) (hU : U i) :
    Rep (h.refill i) rem (fun j => U j ∧ j ≠ i) := by
  have hno : ∀ s ∈ h.heap, s.idx ≠ i := fun s hs e => (r.slot s hs).1 (e ▸ hU)
  have hrem := (r.noslot i hno).1
  rcases refill_cases h i with ⟨e, hn⟩ | ⟨k, v, t, hn, hi, e⟩
  · rw [e]
    refine rep_mono r (fun j hj => hj.1) ?_
    intro j hj hj'
    have : j = i := Classical.byContradiction fun hne => hj' ⟨hj, hne⟩
    subst this; rw [hrem, hn]
  · rw [e]
    refine ⟨?_, ?_, ?_⟩
    · simp only [List.map_cons, List.nodup_cons, List.mem_map, not_exists, not_and]
      exact ⟨fun s hs => hno s hs, r.nodup⟩
    · intro s hs
      rcases List.mem_cons.1 hs with rfl | hs
      · refine ⟨fun hh => hh.2 rfl, by simpa using hi, ?_⟩
        simp only [nth_set _ _ _ _ hi, if_true]
        rw [hrem, hn]
      · obtain ⟨a, b, c⟩ := r.slot s hs
        refine ⟨fun hh => a hh.1, by simpa using b, ?_⟩
        simp only [nth_set _ _ _ _ hi, if_neg (hno s hs)]
        exact c
    · intro j hj
      have hji : j ≠ i := fun e => hj ⟨i, k, v⟩ (by simp) e.symm
      have hj' : ∀ s ∈ h.heap, s.idx ≠ j := fun s hs => hj s (List.mem_cons_of_mem _ hs)
      obtain ⟨a, b⟩ := r.noslot j hj'
      refine ⟨?_, fun hu => b (fun hU' => hu ⟨hU', hji⟩)⟩
      simp only [nth_set _ _ _ _ hi, if_neg hji]
      exact a

theorem rep_pop {pop h rem U} (hp : PopSpec pop) (r : Rep h rem U) {s rest}
    (e : pop h.heap = some (s, rest)) :
    Rep ⟨h.rdrs, rest⟩ (upd rem s.idx (nth h.rdrs s.idx)) (fun j => U j ∨ j = s.idx) ∧
    rem s.idx = (s.input, s.output) :: nth h.rdrs s.idx ∧ ¬ U s.idx ∧
    (∀ x ∈ h.heap, slotLt x s = false) ∧ (s :: rest).Perm h.heap := by
  obtain ⟨hperm, hmin⟩ := hp.2 _ _ _ e
  have hs : s ∈ h.heap := hperm.subset List.mem_cons_self
  have hnd : ((s :: rest).map (·.idx)).Nodup := (hperm.map _).nodup_iff.2 r.nodup
  simp only [List.map_cons, List.nodup_cons, List.mem_map, not_exists, not_and] at hnd
  refine ⟨⟨hnd.2, ?_, ?_⟩, (r.slot s hs).2.2, (r.slot s hs).1, hmin, hperm⟩
  · intro x hx
    have hx' : x ∈ h.heap := hperm.subset (List.mem_cons_of_mem _ hx)
    obtain ⟨a, b, c⟩ := r.slot x hx'
    have hne : x.idx ≠ s.idx := hnd.1 x hx
    exact ⟨fun hh => hh.elim a hne, b, by simp only [upd, if_neg hne]; exact c⟩
  · intro j hj
    by_cases hjs : j = s.idx
    · subst hjs
      simp [upd]
    · have : ∀ x ∈ h.heap, x.idx ≠ j := by
        intro x hx
        rcases List.mem_cons.1 (hperm.symm.subset hx) with rfl | hx
        · exact fun e => hjs e.symm
        · exact hj x hx
      obtain ⟨a, b⟩ := r.noslot j this
      simp only [upd, if_neg hjs]
      exact ⟨a, fun hu => b fun hU => hu (Or.inl hU)⟩

theorem totalItems_pop {h : SHeap} {s rest} (hperm : (s :: rest).Perm h.heap) :
    totalItems ⟨h.rdrs, rest⟩ + 1 = totalItems h := by
  have := hperm.length_eq
  simp only [totalItems, List.length_cons] at *
  omega

/-- `StreamHeap::new` refills the streams one after the other -/
theorem new_induct (streams : List KV) {P : Nat → SHeap → Prop} (h0 : P 0 ⟨streams, []⟩)
    (hstep : ∀ m h, P m h → P (m + 1) (h.refill m)) : P streams.length (SHeap.new streams) := by
  unfold SHeap.new
  induction streams.length with
  | zero => exact h0
  | succ m ih =>
    rw [List.range_succ, List.foldl_append]
    exact hstep m _ ih

theorem rep_new (streams : List KV) :
    Rep (SHeap.new streams) (nth streams) (fun _ => False) ∧
    (SHeap.new streams).rdrs.length = streams.length ∧
    totalItems (SHeap.new streams) = totalLen streams := by
  obtain ⟨r, hl, ht⟩ := new_induct streams
    (P := fun m h => Rep h (nth streams) (fun i => m ≤ i) ∧ h.rdrs.length = streams.length ∧
      totalItems h = totalLen streams)
    ⟨⟨by simp, by simp, fun i _ => ⟨rfl, fun h => absurd (Nat.zero_le i) h⟩⟩, rfl,
      by simp [totalItems, totalLen]⟩
    (fun m h ⟨r, hl, ht⟩ => by
      refine ⟨?_, by rw [refill_len, hl], by rw [totalItems_refill, ht]⟩
      refine rep_mono (rep_refill r m (Nat.le_refl m)) (fun i hi => ⟨Nat.le_of_succ_le hi, Nat.ne_of_gt hi⟩) ?_
      intro i hi hi'
      exact absurd (Nat.lt_of_le_of_ne hi.1 hi.2.symm) hi')
  refine ⟨rep_mono r (fun i hi => hi.elim) ?_, hl, ht⟩
  intro i hi _
  exact rep_beyond r i (hl ▸ hi)

/-! The suffix `F` marks the version of a notion over the remaining streams as a family
`rem : Nat → KV` (`SortedF`, `HasKeyF`, `occF`, `SpecF`), beside the one over `streams : List KV`
in which the theorems are stated (`HasKey`, `occ`). -/

def SortedF (rem : Nat → KV) : Prop := ∀ i, PSorted (rem i)
def LB (k : Key) (rem : Nat → KV) : Prop := ∀ i kv, kv ∈ rem i → lexLt kv.1 k = false
def dropLe (k : Key) (rem : Nat → KV) : Nat → KV := fun i => (rem i).filter (fun kv => lexLt k kv.1)
def HasKeyF (rem : Nat → KV) (k : Key) : Prop := ∃ i v, (k, v) ∈ rem i
def occF (n : Nat) (rem : Nat → KV) (k : Key) : List IndexedValue :=
  (List.range n).flatMap fun i => ((rem i).filter (·.1 == k)).map fun kv => ⟨i, kv.2⟩

theorem beq_of_ge {a k : Key} (h : lexLt a k = false) : (a == k) = !lexLt k a := by
  by_cases e : a = k
  · simp [e, lexLt_irrefl]
  · simp [e, lt_of_ge_ne h e]

theorem mem_upd_tail {rem : Nat → KV} {j : Nat} {x t} (e : rem j = x :: t) {i kv}
    (h : kv ∈ upd rem j t i) : kv ∈ rem i := by
  unfold upd at h
  split at h
  · rename_i hi; rw [hi, e]; exact List.mem_cons_of_mem _ h
  · exact h

theorem sortedF_upd_tail {rem : Nat → KV} (hs : SortedF rem) {j : Nat} {kv t} (e : rem j = kv :: t) :
    SortedF (upd rem j t) := by
  intro i
  unfold upd
  split
  · have := hs j; rw [e] at this; exact (List.pairwise_cons.1 this).2
  · exact hs i

theorem sortedF_dropLe {rem : Nat → KV} (hs : SortedF rem) (k : Key) : SortedF (dropLe k rem) :=
  fun i => (hs i).filter _

theorem dropLe_upd_head {rem : Nat → KV} {j : Nat} {k k' : Key} {v t}
    (e : rem j = (k', v) :: t) (hk : lexLt k k' = false) :
    dropLe k (upd rem j t) = dropLe k rem := by
  funext i
  unfold dropLe upd
  split
  · rename_i h; subst h; rw [e]; simp [hk]
  · rfl

/-- The loops `while let Some(slot) = heap.pop_if_equal(key)` (`drainEqual`) and
`... heap.pop_if_le(key)` (`drainLe`) are one loop with two tests: pop while the minimum satisfies
`c`, refilling the popped stream each time; the popped slots are returned. -/
def drainWhile (pop : PopFn) (c : Slot → Bool) : Nat → SHeap → SHeap × List Slot
  | 0, h => (h, [])
  | fuel+1, h =>
    match pop h.heap with
    | some (s, rest) =>
      if c s then
        ((drainWhile pop c fuel (SHeap.refill ⟨h.rdrs, rest⟩ s.idx)).1,
          s :: (drainWhile pop c fuel (SHeap.refill ⟨h.rdrs, rest⟩ s.idx)).2)
      else (h, [])
    | none => (h, [])

theorem drainEqual_eq (pop : PopFn) (k : Key) (fuel : Nat) (h : SHeap) (outs : List IndexedValue) :
    drainEqual pop k fuel h outs =
      ((drainWhile pop (·.input == k) fuel h).1,
        outs ++ (drainWhile pop (·.input == k) fuel h).2.map Slot.iv) := by
  induction fuel generalizing h outs with
  | zero => simp [drainEqual, drainWhile]
  | succ fuel ih =>
    simp only [drainEqual, SHeap.popIfEqual, SHeap.pop, drainWhile]
    cases pop h.heap with
    | none => simp
    | some p => cases hc : p.1.input == k <;> simp [hc, ih]

theorem drainLe_eq (pop : PopFn) (k : Key) (fuel : Nat) (h : SHeap) (u : Bool) :
    drainLe pop k fuel h u =
      ((drainWhile pop (fun s => lexLe s.input k) fuel h).1,
        u && (drainWhile pop (fun s => lexLe s.input k) fuel h).2.all fun s => !(s.input == k)) := by
  induction fuel generalizing h u with
  | zero => simp [drainLe, drainWhile]
  | succ fuel ih =>
    simp only [drainLe, SHeap.popIfLe, SHeap.pop, drainWhile]
    cases pop h.heap with
    | none => simp
    | some p => cases hc : lexLe p.1.input k <;> simp [hc, ih, Bool.and_assoc]

def itemsLe (n : Nat) (rem : Nat → KV) (k : Key) : List Slot :=
  (List.range n).flatMap fun i =>
    ((rem i).filter fun kv => !lexLt k kv.1).map fun kv => ⟨i, kv.1, kv.2⟩

theorem mem_itemsLe {n : Nat} {rem : Nat → KV} {k : Key} (s : Slot) :
    s ∈ itemsLe n rem k ↔ s.idx < n ∧ (s.input, s.output) ∈ rem s.idx ∧ lexLt k s.input = false := by
  obtain ⟨i, a, v⟩ := s
  simp only [itemsLe, List.mem_flatMap, List.mem_range, List.mem_map, List.mem_filter,
    Bool.not_eq_true', Slot.mk.injEq]
  constructor
  · rintro ⟨j, hj, kv, ⟨hkv, hle⟩, rfl, rfl, rfl⟩
    exact ⟨hj, hkv, hle⟩
  · rintro ⟨h1, h2, h3⟩
    exact ⟨i, h1, (a, v), ⟨h2, h3⟩, rfl, rfl, rfl⟩

theorem perm_flatMap_range_upd {β : Type} (F G : Nat → List β) (x : β) (j : Nat)
    (hF : F j = x :: G j) (hG : ∀ i, i ≠ j → F i = G i) :
    ∀ n, j < n → ((List.range n).flatMap F).Perm (x :: (List.range n).flatMap G) := by
  intro n
  induction n with
  | zero => intro h; cases h
  | succ n ih =>
    intro h
    rw [List.range_succ, List.flatMap_append, List.flatMap_append]
    simp only [List.flatMap_cons, List.flatMap_nil, List.append_nil]
    by_cases e : j = n
    · subst e
      have : (List.range j).flatMap F = (List.range j).flatMap G := by
        simp only [List.flatMap_def]
        rw [List.map_congr_left fun i hi => hG i (by have := List.mem_range.1 hi; omega)]
      rw [this, hF]
      exact List.perm_middle
    · rw [hG n (fun h => e h.symm)]
      exact (ih (by omega)).append_right _

theorem itemsLe_upd {n : Nat} {rem : Nat → KV} {k : Key} {s : Slot} {t : KV}
    (e : rem s.idx = (s.input, s.output) :: t) (hle : lexLt k s.input = false) (hn : s.idx < n) :
    (itemsLe n rem k).Perm (s :: itemsLe n (upd rem s.idx t) k) := by
  refine perm_flatMap_range_upd _ _ s s.idx ?_ ?_ n hn
  · simp [e, hle, upd]
  · intro i hi
    simp [upd, hi]

/-- the popped minimum bounds every stream that holds a slot or is exhausted -/
theorem ge_min {h rem U} (r : Rep h rem U) (hs : SortedF rem) {s : Slot}
    (hmin : ∀ x ∈ h.heap, slotLt x s = false) :
    ∀ i, ¬ U i → ∀ kv ∈ rem i, lexLt kv.1 s.input = false := by
  intro i hUi kv hkv
  by_cases hex : ∃ x ∈ h.heap, x.idx = i
  · obtain ⟨x, hx, rfl⟩ := hex
    have h1 := hmin x hx
    simp only [slotLt, Bool.or_eq_false_iff] at h1
    have e := (r.slot x hx).2.2
    have hsorted := hs x.idx
    rw [e] at hkv hsorted
    rcases List.mem_cons.1 hkv with rfl | hkv
    · exact h1.1
    · cases h2 : lexLt kv.1 s.input with
      | false => rfl
      | true =>
        rw [lexLt_trans ((List.pairwise_cons.1 hsorted).1 kv hkv) h2] at h1; cases h1.1
  · rw [(r.noslot i fun x hx e => hex ⟨x, hx, e⟩).2 hUi] at hkv
    cases hkv

/-- If on the remaining items the test `c` is "key ≤ k", the loop pops exactly those items and
leaves every stream without them; the streams in `U` (the lent slot's) hold only keys above `k`.
Fuel: the left disjunct serves `drainEqual`, whose fuel is the number of streams + 1 (a strictly
sorted stream holds a key at most once, `occF_length_le`), the right one serves `drainLe`. -/
theorem drainWhile_spec {pop} (hp : PopSpec pop) (k : Key) (c : Slot → Bool) :
    ∀ fuel h rem U, Rep h rem U → SortedF rem →
      (∀ s : Slot, (s.input, s.output) ∈ rem s.idx → c s = !lexLt k s.input) →
      (∀ i, U i → ∀ kv ∈ rem i, lexLt k kv.1 = true) →
      ((itemsLe h.rdrs.length rem k).length < fuel ∨ totalItems h < fuel) →
      Rep (drainWhile pop c fuel h).1 (dropLe k rem) U ∧
        (drainWhile pop c fuel h).2.Perm (itemsLe h.rdrs.length rem k) ∧
        (drainWhile pop c fuel h).1.rdrs.length = h.rdrs.length ∧
        totalItems (drainWhile pop c fuel h).1 + (drainWhile pop c fuel h).2.length = totalItems h := by
  intro fuel
  induction fuel with
  | zero => intro h rem U _ _ _ _ hf; omega
  | succ fuel ih =>
    intro h rem U r hs hc hU hf
    -- nothing `≤ k` is left: the loop stops
    have done : (∀ i kv, kv ∈ rem i → lexLt k kv.1 = true) →
        Rep h (dropLe k rem) U ∧ ([] : List Slot).Perm (itemsLe h.rdrs.length rem k) ∧
          h.rdrs.length = h.rdrs.length ∧ totalItems h + ([] : List Slot).length = totalItems h := by
      intro hall
      have h0 : itemsLe h.rdrs.length rem k = [] := List.eq_nil_iff_forall_not_mem.2 fun s hm => by
        obtain ⟨_, h2, h3⟩ := (mem_itemsLe s).1 hm
        rw [hall _ _ h2] at h3; cases h3
      exact ⟨by rw [show dropLe k rem = rem from funext fun i => List.filter_eq_self.2 (hall i)]; exact r,
        by rw [h0], rfl, by simp⟩
    unfold drainWhile
    cases e : pop h.heap with
    | none =>
      apply done
      intro i kv hkv
      by_cases hUi : U i
      · exact hU i hUi kv hkv
      · have : ∀ x ∈ h.heap, x.idx ≠ i := by rw [(hp.1 _).1 e]; simp
        rw [(r.noslot i this).2 hUi] at hkv; cases hkv
    | some p =>
      obtain ⟨s, rest⟩ := p
      dsimp only
      obtain ⟨r1, hrem, hnU, hmin, hperm⟩ := rep_pop hp r e
      have hcs := hc s (hrem ▸ List.mem_cons_self)
      cases hle : lexLt k s.input with
      | true =>
        rw [if_neg (by simp [hcs, hle])]
        apply done
        intro i kv hkv
        by_cases hUi : U i
        · exact hU i hUi kv hkv
        · have hge := ge_min r hs hmin i hUi kv hkv
          by_cases hek : kv.1 = s.input
          · rw [hek]; exact hle
          · exact lexLt_trans hle (lt_of_ge_ne hge hek)
      | false =>
        rw [if_pos (by simp [hcs, hle])]
        have hsn : s.idx < h.rdrs.length := (r.slot s (hperm.subset List.mem_cons_self)).2.1
        have r2 : Rep (SHeap.refill ⟨h.rdrs, rest⟩ s.idx) (upd rem s.idx (nth h.rdrs s.idx)) U := by
          refine rep_mono (rep_refill r1 s.idx (Or.inr rfl))
            (fun i hi => ⟨Or.inl hi, fun e => hnU (e ▸ hi)⟩) ?_
          intro i hi hi'
          rcases hi.1 with h1 | h1
          · exact absurd h1 hi'
          · exact absurd h1 hi.2
        have hpi := itemsLe_upd (n := h.rdrs.length) (k := k) hrem hle hsn
        have hpt := totalItems_pop hperm
        obtain ⟨a1, a2, a3, a4⟩ := ih (SHeap.refill ⟨h.rdrs, rest⟩ s.idx) _ U r2
          (sortedF_upd_tail hs hrem) (fun x hx => hc x (mem_upd_tail hrem hx))
          (fun i hi kv hkv => hU i hi kv (mem_upd_tail hrem hkv))
          (by
            rw [refill_len, totalItems_refill]
            rw [hpi.length_eq, ← hpt] at hf
            exact hf.imp Nat.lt_of_succ_lt_succ Nat.lt_of_succ_lt_succ)
        rw [refill_len] at a2 a3
        rw [totalItems_refill] at a4
        refine ⟨?_, (a2.cons s).trans hpi.symm, a3, by rw [← hpt, ← a4]; rfl⟩
        rw [← dropLe_upd_head hrem hle]; exact a1

/-- with `k` a lower bound, the items `≤ k` are the occurrences of `k` -/
theorem itemsLe_iv {n : Nat} {rem : Nat → KV} {k : Key} (hlb : LB k rem) :
    (itemsLe n rem k).map Slot.iv = occF n rem k := by
  simp only [itemsLe, occF, List.map_flatMap, List.map_map]
  simp only [List.flatMap_def]
  congr 1
  apply List.map_congr_left
  intro i _
  rw [List.filter_congr fun kv hkv => (beq_of_ge (hlb i kv hkv)).symm]
  rfl

theorem filter_key_le_one {l : KV} (hs : PSorted l) (k : Key) :
    (l.filter (·.1 == k)).length ≤ 1 := by
  have hn : (l.map (·.1)).Nodup := by
    rw [List.Nodup, List.pairwise_map]
    exact hs.imp lexLt_ne
  have := key_lawful
  have : (l.filter (·.1 == k)).length = if k ∈ l.map (·.1) then 1 else 0 := by
    rw [← hn.count, List.count_eq_length_filter, List.filter_map, List.length_map]
    rfl
  rw [this]
  split <;> omega

theorem occF_length_le {n rem} (hs : SortedF rem) (k : Key) : (occF n rem k).length ≤ n := by
  have : ∀ is : List Nat, (is.flatMap fun i =>
      ((rem i).filter (·.1 == k)).map fun kv => (⟨i, kv.2⟩ : IndexedValue)).length ≤ is.length := by
    intro is
    induction is with
    | nil => simp
    | cons i t ih =>
      have h1 := filter_key_le_one (hs i) k
      simp only [List.flatMap_cons, List.length_append, List.length_map, List.length_cons]
      omega
  simpa [occF] using this (List.range n)

theorem occF_dropLe {n rem k k'} (h : lexLt k k' = true) : occF n (dropLe k rem) k' = occF n rem k' := by
  unfold occF dropLe
  congr 1; funext i; congr 1
  rw [List.filter_filter]
  apply List.filter_congr
  intro kv _
  cases e : kv.1 == k'
  · rfl
  · rw [key_beq.1 e, h]; rfl

theorem hasKey_dropLe {rem k k'} : HasKeyF (dropLe k rem) k' ↔ HasKeyF rem k' ∧ lexLt k k' = true := by
  simp only [HasKeyF, dropLe, List.mem_filter]
  constructor
  · rintro ⟨i, v, h1, h2⟩; exact ⟨⟨i, v, h1⟩, h2⟩
  · rintro ⟨⟨i, v, h1⟩, h2⟩; exact ⟨i, v, h1, h2⟩

theorem dropLe_dropLe {rem k k2} (h : lexLt k k2 = true) : dropLe k2 (dropLe k rem) = dropLe k2 rem := by
  funext i
  simp only [dropLe, List.filter_filter]
  apply List.filter_congr
  intro kv _
  cases h2 : lexLt k2 kv.1 with
  | false => simp
  | true => simp [lexLt_trans h h2]

theorem rep_congr {h rem U U'} (r : Rep h rem U) (hU : ∀ i, U i ↔ U' i) : Rep h rem U' :=
  rep_mono r (fun i hi => (hU i).2 hi) (fun i hi hi' => absurd ((hU i).1 hi) hi')

def lentOf (c : Option Slot) : Nat → Prop := fun i => ∃ sl, c = some sl ∧ i = sl.idx

/-- what a `next` call that returns `(k, outs)` and leaves `s'` has done. `keep popped nslots` is the
test of the operation on the number of streams holding the key and the number of streams
(`true` for union, `popped ≥ nslots` for intersection, `popped` odd for symmetric difference). -/
structure NextOk (keep : Nat → Nat → Bool) (n : Nat) (rem : Nat → KV) (M : Nat)
    (k : Key) (outs : List IndexedValue) (s' : OpState) : Prop where
  key : HasKeyF rem k
  skipped : ∀ k', HasKeyF rem k' → lexLt k' k = true → keep (occF n rem k').length n = false
  kept : keep (occF n rem k).length n = true
  perm : outs.Perm (occF n rem k)
  rep : Rep s'.heap (dropLe k rem) (lentOf s'.curSlot)
  len : s'.heap.rdrs.length = n
  dec : totalItems s'.heap < M

/-- One round from a full heap: pop the minimum `slot`, drain the slots with its key; `slot`'s
stream is not refilled (the slot is lent out as `cur_slot`). This is `Union::next`; with
`keep = true` the field `skipped` says that `slot.input` is the least key of `rem`. -/
theorem round_spec {pop} (hp : PopSpec pop) {h : SHeap} {rem : Nat → KV}
    (r : Rep h rem (fun _ => False)) (hs : SortedF rem) {slot : Slot} {rest : List Slot}
    (e : pop h.heap = some (slot, rest)) :
    ∃ h'' outs, drainEqual pop slot.input (h.rdrs.length + 1) ⟨h.rdrs, rest⟩ [slot.iv] = (h'', outs) ∧
      NextOk (fun _ _ => true) h.rdrs.length rem (totalItems h) slot.input outs ⟨h'', some slot⟩ := by
  obtain ⟨r1, hrem, -, hmin, hperm⟩ := rep_pop hp r e
  have hlb : LB slot.input rem := fun i => ge_min r hs hmin i id
  have hsj := hs slot.idx
  rw [hrem] at hsj
  have hsn : slot.idx < h.rdrs.length := (r.slot slot (hperm.subset List.mem_cons_self)).2.1
  have hpi := itemsLe_upd (n := h.rdrs.length) (k := slot.input) hrem (lexLt_irrefl _) hsn
  -- at most one slot per stream has the key of `slot`: this is why fuel `n + 1` is enough
  have hcount := occF_length_le (n := h.rdrs.length) hs slot.input
  rw [← itemsLe_iv hlb, List.length_map, hpi.length_eq, List.length_cons] at hcount
  obtain ⟨a1, a2, a3, a4⟩ := drainWhile_spec hp slot.input (·.input == slot.input)
    (h.rdrs.length + 1) ⟨h.rdrs, rest⟩ _ _ r1 (sortedF_upd_tail hs hrem)
    (fun s hm => beq_of_ge (hlb _ _ (mem_upd_tail hrem hm)))
    (fun i hi kv hkv => by
      -- the lent stream holds the tail of a sorted stream whose head was `slot`
      have : i = slot.idx := hi.elim False.elim id
      subst this
      simp only [upd, if_true] at hkv
      exact (List.pairwise_cons.1 hsj).1 kv hkv)
    (Or.inl (Nat.lt_succ_of_lt hcount))
  rw [dropLe_upd_head hrem (lexLt_irrefl _)] at a1
  have hpt := totalItems_pop hperm
  simp only at a3 a4
  exact ⟨_, _, drainEqual_eq _ _ _ _ _, {
    key := ⟨slot.idx, slot.output, hrem ▸ List.mem_cons_self⟩
    skipped := by
      rintro k' ⟨i, v, hkv⟩ hlt
      rw [hlb i _ hkv] at hlt; cases hlt
    kept := rfl
    perm := by
      rw [← itemsLe_iv hlb]
      exact ((a2.cons slot).trans hpi.symm).map Slot.iv
    rep := rep_congr a1 fun i => by simp [lentOf]
    len := a3
    dec := by rw [← hpt, ← a4]; exact Nat.lt_succ_of_le (Nat.le_add_right ..) }⟩

theorem rep_refillCur {s : OpState} {rem} (r : Rep s.heap rem (lentOf s.curSlot)) :
    Rep s.refillCur rem (fun _ => False) ∧ s.refillCur.rdrs.length = s.heap.rdrs.length ∧
      totalItems s.refillCur = totalItems s.heap := by
  unfold OpState.refillCur
  cases hc : s.curSlot with
  | none =>
    simp only
    rw [hc] at r
    exact ⟨rep_congr r fun i => by simp [lentOf], trivial, trivial⟩
  | some slot =>
    simp only
    rw [hc] at r
    refine ⟨?_, refill_len _ _, totalItems_refill _ _⟩
    exact rep_congr (rep_refill r slot.idx ⟨slot, rfl, rfl⟩) fun i => by simp [lentOf]

theorem filterLoop_spec {pop} (hp : PopSpec pop) (keep : Nat → Nat → Bool) (n : Nat) :
    ∀ fuel h rem, Rep h rem (fun _ => False) → SortedF rem → h.rdrs.length = n →
      totalItems h < fuel →
      match filterLoop pop keep fuel h with
      | none => ∀ k, HasKeyF rem k → keep (occF n rem k).length n = false
      | some ((k, outs), s') => NextOk keep n rem (totalItems h) k outs s' := by
  intro fuel
  induction fuel with
  | zero => intro h rem _ _ _ hf; cases hf
  | succ fuel ih =>
    intro h rem r hs hn hf
    unfold filterLoop SHeap.pop
    cases e : pop h.heap with
    | none =>
      simp only [Option.map_none]
      have hnil := (hp.1 _).1 e
      rintro k ⟨i, v, hkv⟩
      have : ∀ x ∈ h.heap, x.idx ≠ i := by rw [hnil]; exact nofun
      rw [(r.noslot i this).2 id] at hkv; cases hkv
    | some p =>
      obtain ⟨slot, rest⟩ := p
      dsimp only [Option.map_some]
      obtain ⟨h'', outs, e1, ok⟩ := round_spec hp r hs e
      rw [e1]
      dsimp only
      rw [hn] at ok
      have hl2 : h''.rdrs.length = n := ok.len
      rw [hl2, ok.perm.length_eq]
      cases hkeep : keep (occF n rem slot.input).length n with
      | true =>
        simp only [if_true]
        exact { ok with skipped := fun k' hk' hlt => (by cases ok.skipped k' hk' hlt), kept := hkeep }
      | false =>
        -- the least key is not kept: the loop goes on with it dropped from every stream (`dropLe`). Every other
        -- key is greater (`hgt`), and for a greater key nothing changes by the drop (`occF_dropLe`, `hasKey_dropLe`)
        simp only [Bool.false_eq_true, if_false]
        have r3 : Rep (h''.refill slot.idx) (dropLe slot.input rem) (fun _ => False) :=
          (rep_refillCur (s := ⟨h'', some slot⟩) ok.rep).1
        have ih' := ih (h''.refill slot.idx) _ r3 (sortedF_dropLe hs _)
          (by rw [refill_len, hl2])
          (by rw [totalItems_refill]; exact Nat.lt_of_lt_of_le ok.dec (Nat.le_of_lt_succ hf))
        have hgt : ∀ k', HasKeyF rem k' → k' ≠ slot.input → lexLt slot.input k' = true := by
          intro k' hk' hne
          cases hlt : lexLt k' slot.input with
          | false => exact lt_of_ge_ne hlt hne
          | true => cases ok.skipped k' hk' hlt
        split at ih'
        · rename_i hnone
          intro k' hk'
          by_cases hek : k' = slot.input
          · rw [hek]; exact hkeep
          · have hlt := hgt k' hk' hek
            rw [← occF_dropLe hlt]
            exact ih' k' (hasKey_dropLe.2 ⟨hk', hlt⟩)
        · rename_i k2 outs2 s' hsome
          obtain ⟨hk2, hlt2⟩ := hasKey_dropLe.1 ih'.key
          exact {
            key := hk2
            skipped := fun k' hk' hlt => by
              by_cases hek : k' = slot.input
              · rw [hek]; exact hkeep
              · have hlt' := hgt k' hk' hek
                rw [← occF_dropLe hlt']
                exact ih'.skipped k' (hasKey_dropLe.2 ⟨hk', hlt'⟩) hlt
            kept := by rw [← occF_dropLe hlt2]; exact ih'.kept
            perm := by rw [← occF_dropLe hlt2]; exact ih'.perm
            rep := by rw [← dropLe_dropLe hlt2]; exact ih'.rep
            len := ih'.len
            dec := Nat.lt_trans (totalItems_refill h'' _ ▸ ih'.dec) ok.dec }

structure SpecF (keep : Nat → Nat → Bool) (n : Nat) (rem : Nat → KV)
    (out : List (Key × List IndexedValue)) : Prop where
  sorted : (out.map (·.1)).Pairwise (fun a b => lexLt a b = true)
  mem : ∀ k, k ∈ out.map (·.1) ↔ HasKeyF rem k ∧ keep (occF n rem k).length n = true
  perm : ∀ k outs, (k, outs) ∈ out → outs.Perm (occF n rem k)

theorem collect_spec {pop} (hp : PopSpec pop) (keep : Nat → Nat → Bool) (n : Nat)
    (next : OpState → Option ((Key × List IndexedValue) × OpState))
    (hnext : ∀ s, next s = filterLoop pop keep (totalItems s.refillCur + 1) s.refillCur) :
    ∀ fuel s rem acc, Rep s.heap rem (lentOf s.curSlot) → SortedF rem → s.heap.rdrs.length = n →
      totalItems s.heap < fuel →
      ∃ out, collectWith next fuel s acc = acc.reverse ++ out ∧ SpecF keep n rem out := by
  intro fuel
  induction fuel with
  | zero => intro s rem acc _ _ _ hf; cases hf
  | succ fuel ih =>
    intro s rem acc r hs hn hf
    obtain ⟨r0, hl0, ht0⟩ := rep_refillCur r
    have hspec := filterLoop_spec hp keep n (totalItems s.refillCur + 1) s.refillCur rem r0 hs
      (hl0.trans hn) (Nat.lt_succ_self _)
    unfold collectWith
    rw [hnext]
    split at hspec
    · rename_i hnone
      rw [hnone]
      refine ⟨[], (List.append_nil _).symm, .nil, ?_, nofun⟩
      intro k
      simp only [List.map_nil, List.not_mem_nil, false_iff, not_and]
      exact fun hk => ne_true_of_eq_false (hspec k hk)
    · -- `next` yields `k`: what follows is the drain of `dropLe k rem`, whose keys are those of `rem` above `k`
      rename_i k outs s' hsome
      rw [hsome]
      dsimp only
      obtain ⟨out', e', sp'⟩ := ih s' _ ((k, outs) :: acc) hspec.rep (sortedF_dropLe hs k) hspec.len
        (Nat.lt_of_lt_of_le (ht0 ▸ hspec.dec) (Nat.le_of_lt_succ hf))
      refine ⟨(k, outs) :: out', by rw [e']; simp, ?_, ?_, ?_⟩
      · simp only [List.map_cons, List.pairwise_cons]
        refine ⟨?_, sp'.sorted⟩
        intro k' hk'
        exact (hasKey_dropLe.1 ((sp'.mem k').1 hk').1).2
      · intro k'
        simp only [List.map_cons, List.mem_cons]
        constructor
        · rintro (rfl | hk')
          · exact ⟨hspec.key, hspec.kept⟩
          · obtain ⟨h1, h2⟩ := (sp'.mem k').1 hk'
            obtain ⟨h3, h4⟩ := hasKey_dropLe.1 h1
            rw [occF_dropLe h4] at h2
            exact ⟨h3, h2⟩
        · rintro ⟨h1, h2⟩
          by_cases hek : k' = k
          · exact Or.inl hek
          · right
            cases hlt : lexLt k' k with
            | true => rw [hspec.skipped k' h1 hlt] at h2; cases h2
            | false =>
              have hgt := lt_of_ge_ne hlt hek
              refine (sp'.mem k').2 ⟨hasKey_dropLe.2 ⟨h1, hgt⟩, ?_⟩
              rw [occF_dropLe hgt]; exact h2
      · intro k' outs' hmem
        rcases List.mem_cons.1 hmem with e | hmem
        · cases e; exact hspec.perm
        · have hk' : k' ∈ out'.map (·.1) := List.mem_map.2 ⟨_, hmem, rfl⟩
          have hgt := (hasKey_dropLe.1 ((sp'.mem k').1 hk').1).2
          rw [← occF_dropLe hgt]
          exact sp'.perm k' outs' hmem

theorem unionNext_eq (pop : PopFn) (s : OpState) :
    unionNext pop s = filterLoop pop (fun _ _ => true) (totalItems s.refillCur + 1) s.refillCur := by
  unfold unionNext filterLoop
  simp only
  cases s.refillCur.pop pop with
  | none => rfl
  | some p => simp

/-- `[(i, v) | i ← indices, (k, v) ∈ streams[i]]` in index order -/
def occ (streams : List KV) (k : Key) : List IndexedValue :=
  (List.range streams.length).flatMap fun i =>
    ((streams[i]?.getD []).filter (·.1 == k)).map fun kv => ⟨i, kv.2⟩

def HasKey (streams : List KV) (k : Key) : Prop := ∃ l ∈ streams, ∃ v, (k, v) ∈ l

def SortedK (ks : List Key) : Prop := ks.Pairwise (fun a b => lexLt a b = true)

def insertKey (k : Key) : List Key → List Key
  | [] => [k]
  | a :: t => if lexLt k a then k :: a :: t else if k == a then a :: t else a :: insertKey k t

/-- all keys of all streams, ascending, each once -/
def allKeys (streams : List KV) : List Key := (streams.flatten.map (·.1)).foldr insertKey []

theorem occ_eq (streams : List KV) (k : Key) : occ streams k = occF streams.length (nth streams) k := rfl

theorem hasKeyF_nth (streams : List KV) (k : Key) : HasKeyF (nth streams) k ↔ HasKey streams k := by
  unfold HasKeyF HasKey nth
  constructor
  · rintro ⟨i, v, h⟩
    cases hi : streams[i]? with
    | none => rw [hi] at h; simp at h
    | some l => rw [hi] at h; exact ⟨l, List.mem_of_getElem? hi, v, h⟩
  · rintro ⟨l, hl, v, h⟩
    obtain ⟨i, hi, rfl⟩ := List.getElem_of_mem hl
    exact ⟨i, v, by simpa [List.getElem?_eq_getElem hi] using h⟩

theorem sortedF_nth {streams : List KV} (hs : ∀ l ∈ streams, SortedKV l) : SortedF (nth streams) := by
  intro i
  unfold nth
  cases hi : streams[i]? with
  | none => exact List.Pairwise.nil
  | some l => exact sortedKV_iff_pairwise.1 (hs l (List.mem_of_getElem? hi))

theorem mem_insertKey (k x : Key) (l : List Key) : x ∈ insertKey k l ↔ x = k ∨ x ∈ l := by
  induction l with
  | nil => simp [insertKey]
  | cons a t ih =>
    unfold insertKey
    split
    · simp
    · split
      · rename_i h; obtain rfl := key_beq.1 h
        simp
      · simp only [List.mem_cons, ih]
        exact or_left_comm

theorem sorted_insertKey (k : Key) (l : List Key) (hs : SortedK l) : SortedK (insertKey k l) := by
  unfold SortedK at *
  induction l with
  | nil => simp [insertKey]
  | cons a t ih =>
    obtain ⟨ha, ht⟩ := List.pairwise_cons.1 hs
    unfold insertKey
    split
    · rename_i hlt
      refine List.pairwise_cons.2 ⟨?_, hs⟩
      intro b hb
      rcases List.mem_cons.1 hb with rfl | hb
      · exact hlt
      · exact lexLt_trans hlt (ha b hb)
    · rename_i hlt
      split
      · exact hs
      · rename_i hne
        refine List.pairwise_cons.2 ⟨?_, ih ht⟩
        intro b hb
        rcases (mem_insertKey k b t).1 hb with rfl | hb
        · exact lt_of_ge_ne (by simpa using hlt) (mt key_beq.2 hne)
        · exact ha b hb

theorem sorted_allKeys (streams : List KV) : SortedK (allKeys streams) := by
  unfold allKeys
  induction streams.flatten.map (·.1) with
  | nil => exact List.Pairwise.nil
  | cons a t ih => exact sorted_insertKey a _ ih

theorem mem_allKeys (streams : List KV) (k : Key) : k ∈ allKeys streams ↔ HasKey streams k := by
  have : ∀ l : List Key, k ∈ l.foldr insertKey [] ↔ k ∈ l := by
    intro l
    induction l with
    | nil => simp
    | cons a t ih => simp [mem_insertKey, ih]
  unfold allKeys HasKey
  rw [this]
  simp only [List.mem_map, List.mem_flatten]
  constructor
  · rintro ⟨kv, ⟨l, hl, hkv⟩, rfl⟩; exact ⟨l, hl, kv.2, hkv⟩
  · rintro ⟨l, hl, v, hkv⟩; exact ⟨(k, v), ⟨l, hl, hkv⟩, rfl⟩

theorem sortedK_ext {l1 l2 : List Key} (h1 : SortedK l1) (h2 : SortedK l2)
    (h : ∀ k, k ∈ l1 ↔ k ∈ l2) : l1 = l2 :=
  pairwise_ext (fun a b hab hba => by rw [lexLt_asymm hab] at hba; cases hba) h1 h2 h

theorem opFilter_spec {pop} (hp : PopSpec pop) (keep : Nat → Nat → Bool)
    (next : OpState → Option ((Key × List IndexedValue) × OpState))
    (hnext : ∀ s, next s = filterLoop pop keep (totalItems s.refillCur + 1) s.refillCur)
    (streams : List KV) (hs : ∀ l ∈ streams, SortedKV l) :
    SortedK ((collectWith next (totalLen streams + 1) (OpState.new streams) []).map (·.1)) ∧
    (∀ k, k ∈ (collectWith next (totalLen streams + 1) (OpState.new streams) []).map (·.1) ↔
      HasKey streams k ∧ keep (occ streams k).length streams.length = true) ∧
    ∀ k outs, (k, outs) ∈ collectWith next (totalLen streams + 1) (OpState.new streams) [] →
      outs.Perm (occ streams k) := by
  obtain ⟨r, hl, ht⟩ := rep_new streams
  obtain ⟨out, e, sp⟩ := collect_spec hp keep streams.length next hnext (totalLen streams + 1)
    (OpState.new streams) (nth streams) []
    (rep_congr r fun i => by simp [lentOf, OpState.new]) (sortedF_nth hs) hl
    (by simp only [OpState.new]; omega)
  rw [e]
  simp only [List.reverse_nil, List.nil_append]
  refine ⟨sp.sorted, ?_, sp.perm⟩
  intro k
  rw [sp.mem k, hasKeyF_nth, occ_eq]

theorem keys_eq_filter {streams : List KV} {ks : List Key} {p : Key → Bool} (h1 : SortedK ks)
    (h2 : ∀ k, k ∈ ks ↔ HasKey streams k ∧ p k = true) : ks = (allKeys streams).filter p := by
  refine sortedK_ext h1 ((sorted_allKeys streams).filter _) fun k => ?_
  rw [h2, List.mem_filter, mem_allKeys]

theorem drainLe_spec {pop} (hp : PopSpec pop) (k : Key) (fuel : Nat) (h : SHeap)
    (rem : Nat → KV) (u : Bool) (r : Rep h rem (fun _ => False)) (hs : SortedF rem)
    (hf : totalItems h < fuel) :
    ∃ h' b, drainLe pop k fuel h u = (h', u && b) ∧ (b = true ↔ ¬ HasKeyF rem k) ∧
      Rep h' (dropLe k rem) (fun _ => False) ∧ h'.rdrs.length = h.rdrs.length ∧
      totalItems h' ≤ totalItems h := by
  obtain ⟨a1, a2, a3, a4⟩ := drainWhile_spec hp k (fun s => lexLe s.input k) fuel h rem _ r hs
    (fun _ _ => rfl) (fun _ hi => hi.elim) (Or.inr hf)
  refine ⟨_, _, drainLe_eq pop k fuel h u, ?_, a1, a3, a4 ▸ Nat.le_add_right ..⟩
  simp only [List.all_eq_true, Bool.not_eq_true', ← Bool.not_eq_true, key_beq]
  constructor
  · rintro hall ⟨i, v, hkv⟩
    have hi : i < h.rdrs.length := Nat.lt_of_not_le fun hi => by
      rw [rep_beyond r i hi] at hkv; cases hkv
    exact hall ⟨i, k, v⟩ (a2.symm.subset ((mem_itemsLe _).2 ⟨hi, hkv, lexLt_irrefl k⟩)) rfl
  · intro hno s hs' e
    obtain ⟨_, h2, _⟩ := (mem_itemsLe s).1 (a2.subset hs')
    exact hno ⟨s.idx, s.output, e ▸ h2⟩

/-- `p` decides, on the entries still to come, that the key is in none of the other streams;
this survives dropping the keys up to the current one -/
theorem absent_dropLe {p : Key × Nat → Bool} {rem : Nat → KV} {k : Key} {v : Nat} {rest : KV}
    (hs : PSorted ((k, v) :: rest))
    (h : ∀ kv ∈ (k, v) :: rest, (p kv = true ↔ ¬ HasKeyF rem kv.1)) :
    ∀ kv ∈ rest, (p kv = true ↔ ¬ HasKeyF (dropLe k rem) kv.1) := by
  intro kv hkv
  have hlt : lexLt k kv.1 = true := (List.pairwise_cons.1 hs).1 kv hkv
  rw [h kv (List.mem_cons_of_mem _ hkv), hasKey_dropLe]
  simp [hlt]

def diffItem (kv : Key × Nat) : Key × List IndexedValue := (kv.1, [⟨0, kv.2⟩])

theorem differenceNext_spec {pop} (hp : PopSpec pop) (p : Key × Nat → Bool) :
    ∀ fuel set h rem, Rep h rem (fun _ => False) → SortedF rem → PSorted set →
      (∀ kv ∈ set, (p kv = true ↔ ¬ HasKeyF rem kv.1)) → set.length < fuel →
      match differenceNext pop fuel ⟨set, h⟩ with
      | none => set.filter p = []
      | some (item, s') => ∃ kv, item = diffItem kv ∧ set.filter p = kv :: s'.set.filter p ∧
          Rep s'.heap (dropLe kv.1 rem) (fun _ => False) ∧ PSorted s'.set ∧
          (∀ kv' ∈ s'.set, (p kv' = true ↔ ¬ HasKeyF (dropLe kv.1 rem) kv'.1)) ∧
          s'.set.length < set.length := by
  intro fuel
  induction fuel with
  | zero => intro set h rem _ _ _ _ hf; cases hf
  | succ fuel ih =>
    intro set h rem r hs hss hpa hf
    unfold differenceNext
    cases set with
    | nil => rfl
    | cons kv rest =>
      obtain ⟨k, v⟩ := kv
      dsimp only
      obtain ⟨h1, b, e1, hb, r1, -⟩ :=
        drainLe_spec hp k (totalItems h + 1) h rem true r hs (Nat.lt_succ_self _)
      rw [e1]
      have hrest : PSorted rest := (List.pairwise_cons.1 hss).2
      have hpk := hpa (k, v) List.mem_cons_self
      cases b with
      | true =>  -- no other stream holds `k`: the entry is yielded
        simp only [Bool.and_self, if_true]
        refine ⟨(k, v), rfl, ?_, r1, hrest, absent_dropLe hss hpa, Nat.lt_succ_self _⟩
        rw [List.filter_cons, if_pos (hpk.2 (hb.1 rfl))]
      | false =>  -- some other stream holds `k`: the entry is skipped
        simp only [Bool.and_false, Bool.false_eq_true, if_false]
        have ih' := ih rest h1 _ r1 (sortedF_dropLe hs k) hrest (absent_dropLe hss hpa)
          (Nat.lt_of_succ_lt_succ hf)
        have hhead : ¬ p (k, v) = true := fun hpv => by cases hb.2 (hpk.1 hpv)
        rw [List.filter_cons, if_neg hhead]
        split at ih'
        · exact ih'
        · obtain ⟨kv', h1', h2', h3', h4', h5', h6'⟩ := ih'
          have hlt : lexLt k kv'.1 = true := by
            have : kv' ∈ rest.filter p := h2' ▸ List.mem_cons_self
            exact (List.pairwise_cons.1 hss).1 kv' (List.mem_filter.1 this).1
          rw [dropLe_dropLe hlt] at h3' h5'
          exact ⟨kv', h1', h2', h3', h4', h5', Nat.lt_succ_of_lt h6'⟩

theorem diff_collect_spec {pop} (hp : PopSpec pop) (p : Key × Nat → Bool) (F : Nat) :
    ∀ fuel set h rem acc, Rep h rem (fun _ => False) → SortedF rem → PSorted set →
      (∀ kv ∈ set, (p kv = true ↔ ¬ HasKeyF rem kv.1)) → set.length < F → set.length < fuel →
      collectWith (differenceNext pop F) fuel ⟨set, h⟩ acc =
        acc.reverse ++ (set.filter p).map diffItem := by
  intro fuel
  induction fuel with
  | zero => intro set h rem acc _ _ _ _ _ hf; cases hf
  | succ fuel ih =>
    intro set h rem acc r hs hss hpa hF hf
    have hspec := differenceNext_spec hp p F set h rem r hs hss hpa hF
    unfold collectWith
    split at hspec
    · rename_i hnone
      rw [hnone, hspec]; simp
    · rename_i item s' hsome
      rw [hsome]
      obtain ⟨kv, h1, h2, h3, h4, h5, h6⟩ := hspec
      simp only
      rw [ih s'.set s'.heap _ (item :: acc) h3 (sortedF_dropLe hs _) h4 h5 (Nat.lt_trans h6 hF)
        (Nat.lt_of_lt_of_le h6 (Nat.le_of_lt_succ hf)), h2, h1]
      simp

/-- some stream has the key `k` (executable form of `HasKey`) -/
def hasKeyB (streams : List KV) (k : Key) : Bool := streams.any fun l => l.any (·.1 == k)

theorem hasKeyB_iff (streams : List KV) (k : Key) : hasKeyB streams k = true ↔ HasKey streams k := by
  simp only [hasKeyB, HasKey, List.any_eq_true, key_beq]
  constructor
  · rintro ⟨l, hl, kv, hkv, rfl⟩; exact ⟨l, hl, kv.2, hkv⟩
  · rintro ⟨l, hl, v, hkv⟩; exact ⟨l, hl, (k, v), hkv, rfl⟩

/-- the reader order after `swap_remove(0)` -/
def swapRemoved (rest : List KV) : List KV :=
  match rest.getLast? with
  | some l => l :: rest.dropLast
  | none => []

theorem swapRemoved_perm (rest : List KV) : (swapRemoved rest).Perm rest := by
  unfold swapRemoved
  cases h : rest.getLast? with
  | none => rw [List.getLast?_eq_none_iff] at h; simp [h]
  | some a =>
    obtain ⟨ys, rfl⟩ := List.getLast?_eq_some_iff.1 h
    simpa using (List.perm_append_singleton a ys).symm

theorem diff_spec {pop} (hp : PopSpec pop) (first : KV) (rest : List KV)
    (hs : ∀ l ∈ first :: rest, SortedKV l) :
    opCollect pop .difference (first :: rest) =
      some ((first.filter (fun kv => !hasKeyB rest kv.1)).map (fun kv => (kv.1, [⟨0, kv.2⟩]))) := by
  have hsw : ∀ l ∈ swapRemoved rest, SortedKV l := fun l hl =>
    hs l (List.mem_cons_of_mem _ ((swapRemoved_perm rest).mem_iff.1 hl))
  obtain ⟨r, -, -⟩ := rep_new (swapRemoved rest)
  have hlen : first.length < totalLen (first :: rest) + 1 := Nat.lt_succ_of_le (Nat.le_add_right ..)
  have hpa : ∀ kv ∈ first, ((!hasKeyB rest kv.1) = true ↔
      ¬ HasKeyF (nth (swapRemoved rest)) kv.1) := by
    intro kv _
    rw [hasKeyF_nth, Bool.not_eq_true', ← Bool.not_eq_true, hasKeyB_iff]
    simp only [HasKey, (swapRemoved_perm rest).mem_iff]
  have := diff_collect_spec hp (fun kv => !hasKeyB rest kv.1) (first.length + 1)
    (totalLen (first :: rest) + 1) first (SHeap.new (swapRemoved rest)) _ [] r (sortedF_nth hsw)
    (sortedKV_iff_pairwise.1 (hs first List.mem_cons_self)) hpa (Nat.lt_succ_self _) hlen
  -- `opCollect pop .difference (first :: rest)` is by definition `some` of this drain
  exact congrArg some this

def KeyOf (l : KV) (k : Key) : Prop := ∃ v, (k, v) ∈ l

theorem keyOf_iff_mem (l : KV) (k : Key) : KeyOf l k ↔ k ∈ l.map (·.1) := by
  simp only [KeyOf, List.mem_map]
  constructor
  · rintro ⟨v, h⟩; exact ⟨(k, v), h, rfl⟩
  · rintro ⟨kv, h, rfl⟩; exact ⟨kv.2, h⟩

theorem nodup_of_sortedK {l : List Key} (h : SortedK l) : l.Nodup :=
  h.imp lexLt_ne

theorem sortedK_keys {l : KV} (h : SortedKV l) : SortedK (l.map (·.1)) :=
  List.pairwise_map.2 (sortedKV_iff_pairwise.1 h)

theorem length_eq_iff_subset {l1 l2 : List Key} (n1 : l1.Nodup) (n2 : l2.Nodup) (h : l1 ⊆ l2) :
    l1.length = l2.length ↔ l2 ⊆ l1 := by
  constructor
  · intro hl x hx
    apply Classical.byContradiction
    intro hx'
    have : (x :: l1).Nodup := List.nodup_cons.2 ⟨hx', n1⟩
    have := this.length_le_of_subset (l₂ := l2) (by
      intro y hy
      rcases List.mem_cons.1 hy with rfl | hy
      · exact hx
      · exact h hy)
    simp only [List.length_cons] at this; omega
  · intro h'
    have a := n1.length_le_of_subset h
    have b := n2.length_le_of_subset h'
    omega

theorem hasKey_one (a : KV) (k : Key) : HasKey [a] k ↔ KeyOf a k := by
  simp [HasKey, KeyOf]

theorem hasKey_two (a b : KV) (k : Key) : HasKey [a, b] k ↔ KeyOf a k ∨ KeyOf b k := by
  simp [HasKey, KeyOf]

theorem filter_len_pos {l : KV} {k : Key} : 0 < (l.filter (·.1 == k)).length ↔ KeyOf l k := by
  rw [List.length_pos_iff_exists_mem]
  simp only [List.mem_filter, key_beq, KeyOf]
  constructor
  · rintro ⟨kv, h, rfl⟩; exact ⟨kv.2, h⟩
  · rintro ⟨v, h⟩; exact ⟨(k, v), h, rfl⟩

theorem inter_two {a b : KV} (ha : SortedKV a) (hb : SortedKV b) (k : Key) :
    HasKey [a, b] k ∧ (!decide ((occ [a, b] k).length < [a, b].length)) = true ↔
      KeyOf a k ∧ KeyOf b k := by
  have h1 := filter_key_le_one (sortedKV_iff_pairwise.1 ha) k
  have h2 := filter_key_le_one (sortedKV_iff_pairwise.1 hb) k
  have h3 : (occ [a, b] k).length =
      (a.filter (·.1 == k)).length + (b.filter (·.1 == k)).length := by
    simp [occ, List.range_succ]
  rw [hasKey_two, ← filter_len_pos, ← filter_len_pos, h3]
  simp only [List.length_cons, List.length_nil, Bool.not_eq_true', decide_eq_false_iff_not]
  omega

theorem collectWith_ne_nil {S : Type} (next : S → Option ((Key × List IndexedValue) × S)) :
    ∀ fuel s acc, acc ≠ [] → collectWith next fuel s acc ≠ []
  | 0, _, acc, h => by simpa [collectWith] using h
  | fuel+1, s, acc, h => by
    unfold collectWith
    split
    · simpa using h
    · exact collectWith_ne_nil next fuel _ _ (by simp)

theorem isNone_iff_collect {S : Type} (next : S → Option ((Key × List IndexedValue) × S))
    (fuel : Nat) (s : S) : (next s).isNone = true ↔ collectWith next (fuel + 1) s [] = [] := by
  unfold collectWith
  cases next s with
  | none => simp
  | some p => simpa using collectWith_ne_nil next fuel p.2 [p.1] (by simp)

theorem sorted_two {a b : KV} (ha : SortedKV a) (hb : SortedKV b) : ∀ l ∈ [a, b], SortedKV l := by
  intro l hl
  simp only [List.mem_cons, List.not_mem_nil, or_false] at hl
  rcases hl with rfl | rfl <;> assumption

end Fst.Ops

namespace Fst
open Ops

/-- `is_disjoint`: no common key -/
theorem C05_disjoint (pop : PopFn) (hp : PopSpec pop) (a b : KV) (ha : SortedKV a) (hb : SortedKV b) :
    isDisjoint pop a b = true ↔ ∀ k, ¬ (KeyOf a k ∧ KeyOf b k) := by
  obtain ⟨-, h2, -⟩ := opFilter_spec hp (fun popped nslots => !(popped < nslots))
    (intersectionNext pop) (fun _ => rfl) [a, b] (sorted_two ha hb)
  unfold isDisjoint
  rw [isNone_iff_collect _ (totalLen [a, b])]
  generalize collectWith (intersectionNext pop) (totalLen [a, b] + 1) (OpState.new [a, b]) [] = out
    at h2
  have hmem := fun k => (h2 k).trans (inter_two ha hb k)
  constructor
  · intro e k hk
    have := (hmem k).2 hk
    rw [e] at this; cases this
  · intro h
    cases out with
    | nil => rfl
    | cons x t => exact absurd ((hmem x.1).1 (List.mem_map_of_mem List.mem_cons_self)) (h x.1)

/-- `is_subset`: every key of `a` is a key of `b` -/
theorem C05_subset (pop : PopFn) (hp : PopSpec pop) (a b : KV) (ha : SortedKV a) (hb : SortedKV b) :
    isSubset pop a b = true ↔ ∀ k, KeyOf a k → KeyOf b k := by
  obtain ⟨h1, h2, -⟩ := opFilter_spec hp (fun popped nslots => !(popped < nslots))
    (intersectionNext pop) (fun _ => rfl) [a, b] (sorted_two ha hb)
  unfold isSubset
  generalize collectWith (intersectionNext pop) (totalLen [a, b] + 1) (OpState.new [a, b]) [] = out
    at h1 h2
  have hmem := fun k => (h2 k).trans (inter_two ha hb k)
  simp only [keyOf_iff_mem] at hmem ⊢
  have := length_eq_iff_subset (nodup_of_sortedK h1) (nodup_of_sortedK (sortedK_keys ha))
    fun k hk => ((hmem k).1 hk).1
  simp only [List.length_map] at this
  rw [beq_iff_eq, this]
  exact ⟨fun h k hk => ((hmem k).1 (h hk)).2, fun h k hk => (hmem k).2 ⟨hk, h k hk⟩⟩

/-- `is_superset`: every key of `b` is a key of `a` -/
theorem C05_superset (pop : PopFn) (hp : PopSpec pop) (a b : KV) (ha : SortedKV a) (hb : SortedKV b) :
    isSuperset pop a b = true ↔ ∀ k, KeyOf b k → KeyOf a k := by
  obtain ⟨h1, h2, -⟩ := opFilter_spec hp (fun _ _ => true)
    (unionNext pop) (unionNext_eq pop) [a, b] (sorted_two ha hb)
  unfold isSuperset
  generalize collectWith (unionNext pop) (totalLen [a, b] + 1) (OpState.new [a, b]) [] = out
    at h1 h2
  have hmem : ∀ k, k ∈ out.map (·.1) ↔ KeyOf a k ∨ KeyOf b k := fun k => by
    rw [h2, hasKey_two]; simp
  simp only [keyOf_iff_mem] at hmem ⊢
  have := length_eq_iff_subset (nodup_of_sortedK (sortedK_keys ha)) (nodup_of_sortedK h1)
    fun k hk => (hmem k).2 (Or.inl hk)
  simp only [List.length_map] at this
  rw [beq_iff_eq, eq_comm, this]
  exact ⟨fun h k hk => h ((hmem k).2 (Or.inr hk)), fun h k hk => ((hmem k).1 hk).elim id (h k)⟩

/-- Union: every key of every stream, ascending, each once, with all its occurrences -/
theorem C05_union (pop : PopFn) (hp : PopSpec pop) (streams : List KV)
    (hs : ∀ l ∈ streams, SortedKV l) :
    ∃ out, opCollect pop .union streams = some out ∧
      out.map (·.1) = allKeys streams ∧
      ∀ k outs, (k, outs) ∈ out → outs.Perm (occ streams k) := by
  obtain ⟨h1, h2, h3⟩ := opFilter_spec hp (fun _ _ => true) (unionNext pop) (unionNext_eq pop) streams hs
  refine ⟨_, rfl, ?_, h3⟩
  rw [keys_eq_filter (p := fun _ => true) h1 h2]
  simp

/-- Intersection: the keys present in every stream -/
theorem C05_inter (pop : PopFn) (hp : PopSpec pop) (streams : List KV)
    (hs : ∀ l ∈ streams, SortedKV l) :
    ∃ out, opCollect pop .intersection streams = some out ∧
      out.map (·.1) = (allKeys streams).filter
        (fun k => decide ((occ streams k).length = streams.length)) ∧
      ∀ k outs, (k, outs) ∈ out → outs.Perm (occ streams k) := by
  obtain ⟨h1, h2, h3⟩ := opFilter_spec hp (fun popped nslots => !(popped < nslots))
    (intersectionNext pop) (fun _ => rfl) streams hs
  refine ⟨_, rfl, ?_, h3⟩
  rw [keys_eq_filter h1 h2]
  apply List.filter_congr
  intro k _
  have := occF_length_le (n := streams.length) (sortedF_nth hs) k
  rw [← occ_eq] at this
  by_cases e : (occ streams k).length = streams.length
  · simp [e]
  · have : (occ streams k).length < streams.length := by omega
    simp [e, this]

/-- Symmetric difference: the keys present in an odd number of streams -/
theorem C05_symdiff (pop : PopFn) (hp : PopSpec pop) (streams : List KV)
    (hs : ∀ l ∈ streams, SortedKV l) :
    ∃ out, opCollect pop .symmetricDifference streams = some out ∧
      out.map (·.1) = (allKeys streams).filter
        (fun k => decide ((occ streams k).length % 2 = 1)) ∧
      ∀ k outs, (k, outs) ∈ out → outs.Perm (occ streams k) := by
  obtain ⟨h1, h2, h3⟩ := opFilter_spec hp (fun popped _ => !(popped % 2 == 0))
    (symDiffNext pop) (fun _ => rfl) streams hs
  refine ⟨_, rfl, ?_, h3⟩
  rw [keys_eq_filter h1 h2]
  apply List.filter_congr
  intro k _
  rcases Nat.mod_two_eq_zero_or_one (occ streams k).length with e | e <;> simp [e]

/-- Difference: the entries of `streams[0]` whose key occurs in no other stream, in order, each
reported with index 0. The reader permutation of `swap_remove(0)` (`swapRemoved`) is
irrelevant: only membership of keys in the other streams matters (`swapRemoved_perm`). -/
theorem C05_diff (pop : PopFn) (hp : PopSpec pop) (streams : List KV) (hne : streams ≠ [])
    (hs : ∀ l ∈ streams, SortedKV l) :
    opCollect pop .difference streams =
      some (((streams.head hne).filter (fun kv => !hasKeyB streams.tail kv.1)).map
        (fun kv => (kv.1, [⟨0, kv.2⟩]))) := by
  cases streams with
  | nil => exact absurd rfl hne
  | cons first rest => exact diff_spec hp first rest hs

/-- `hasKeyB` in `C05_diff` is the membership predicate `HasKey` -/
theorem C05_diff_mem (streams : List KV) (hne : streams ≠ []) (k : Key) (outs : List IndexedValue) :
    (k, outs) ∈ ((streams.head hne).filter (fun kv => !hasKeyB streams.tail kv.1)).map
        (fun kv => (kv.1, [(⟨0, kv.2⟩ : IndexedValue)])) ↔
      ∃ v, (k, v) ∈ streams.head hne ∧ ¬ HasKey streams.tail k ∧ outs = [⟨0, v⟩] := by
  simp only [List.mem_map, List.mem_filter, Bool.not_eq_true', Prod.mk.injEq]
  constructor
  · rintro ⟨kv, ⟨h1, h2⟩, rfl, rfl⟩
    refine ⟨kv.2, h1, ?_, rfl⟩
    rw [← hasKeyB_iff, h2]; simp
  · rintro ⟨v, h1, h2, rfl⟩
    refine ⟨(k, v), ⟨h1, ?_⟩, rfl, rfl⟩
    rw [← hasKeyB_iff] at h2
    simpa using h2

/-- `swap_remove(0)` on an empty vector panics -/
theorem C05_diff_empty (pop : PopFn) : opCollect pop .difference [] = none := rfl

end Fst

namespace Fst.Ops

theorem occ_values (streams : List KV) (k : Key) :
    (occ streams k).map (·.value) = streams.flatMap fun s => (s.filter (·.1 == k)).map (·.2) := by
  have hr : (List.range streams.length).map (fun i => streams[i]?.getD []) = streams := by
    apply List.ext_getElem
    · simp
    · intro i h1 h2
      rw [List.getElem_map, List.getElem_range, List.getElem?_eq_getElem h2]; rfl
  conv => rhs; rw [← hr, List.flatMap_map]
  simp only [occ, List.map_flatMap, List.map_map, Function.comp_def]

/-- ties with equal values (`[]` ↦ 1 twice, `[1]` ↦ 2 twice) and different values, an empty
stream, the empty key -/
def exStreams : List KV :=
  [ [([], 1), ([1], 2), ([1, 2], 3), ([3], 4), ([5], 6)], [],
    [([], 1), ([1], 7), ([2], 5)], [([1], 2), ([1, 2], 9), ([3], 0)] ]

/-- the same without the empty stream -/
def exStreams' : List KV :=
  [ [([], 1), ([1], 2), ([1, 2], 3), ([3], 4), ([5], 6)],
    [([], 1), ([1], 7), ([2], 5)], [([1], 2), ([1, 2], 9), ([3], 0)] ]

theorem exStreams_sorted : ∀ l ∈ exStreams, SortedKV l := by
  simp only [sortedKV_iff_pairwise]
  decide
theorem exStreams'_sorted : ∀ l ∈ exStreams', SortedKV l := by
  simp only [sortedKV_iff_pairwise]
  decide

example : PopSpec popMin := popSpec_popMin

example : ∃ out, opCollect popMin .union exStreams = some out ∧ out.map (·.1) = allKeys exStreams ∧
    ∀ k outs, (k, outs) ∈ out → outs.Perm (occ exStreams k) :=
  C05_union popMin popSpec_popMin exStreams exStreams_sorted
example : allKeys exStreams = [[], [1], [1, 2], [2], [3], [5]] := by decide
example : occ exStreams [1] = [⟨0, 2⟩, ⟨2, 7⟩, ⟨3, 2⟩] := by decide
example : opCollect popMin .union exStreams = some
    [([], [⟨2, 1⟩, ⟨0, 1⟩]), ([1], [⟨0, 2⟩, ⟨3, 2⟩, ⟨2, 7⟩]), ([1, 2], [⟨0, 3⟩, ⟨3, 9⟩]),
     ([2], [⟨2, 5⟩]), ([3], [⟨3, 0⟩, ⟨0, 4⟩]), ([5], [⟨0, 6⟩])] := by decide

/-- another admissible tie-break: the *last* minimal slot -/
def popMinLast : PopFn
  | [] => none
  | s :: rest =>
    match popMinLast rest with
    | none => some (s, [])
    | some (m, rest') => if slotLt s m then some (s, rest) else some (m, s :: rest')

theorem popMinLast_none (h : List Slot) : popMinLast h = none ↔ h = [] := by
  cases h with
  | nil => simp [popMinLast]
  | cons s rest =>
    simp only [popMinLast]
    split <;> (try split) <;> simp

theorem popSpec_popMinLast : PopSpec popMinLast := by
  refine ⟨popMinLast_none, ?_⟩
  intro h
  induction h with
  | nil => simp [popMinLast]
  | cons a t ih =>
    intro s rest
    simp only [popMinLast]
    split
    · rename_i hn
      rw [popMinLast_none] at hn; subst hn
      simp only [Option.some.injEq, Prod.mk.injEq]
      rintro ⟨rfl, rfl⟩
      simp [slotLt_irrefl]
    · rename_i m rest' hm
      obtain ⟨hp, hmin⟩ := ih m rest' hm
      have hstep := pop_step (a := a) hp hmin
      split
      · rename_i hlt
        simp only [Option.some.injEq, Prod.mk.injEq]
        rintro ⟨rfl, rfl⟩
        exact ⟨List.Perm.refl _, hstep.1 (slotLt_asymm hlt)⟩
      · rename_i hlt
        simp only [Option.some.injEq, Prod.mk.injEq]
        rintro ⟨rfl, rfl⟩
        exact hstep.2 (by simpa using hlt)

/-- the two tie-breaks report the equal `([], 1)` slots in different orders -/
example : opCollect popMinLast .union exStreams = some
    [([], [⟨0, 1⟩, ⟨2, 1⟩]), ([1], [⟨3, 2⟩, ⟨0, 2⟩, ⟨2, 7⟩]), ([1, 2], [⟨0, 3⟩, ⟨3, 9⟩]),
     ([2], [⟨2, 5⟩]), ([3], [⟨3, 0⟩, ⟨0, 4⟩]), ([5], [⟨0, 6⟩])] := by decide

example : ∃ out, opCollect popMin .intersection exStreams' = some out ∧
    out.map (·.1) = (allKeys exStreams').filter
      (fun k => decide ((occ exStreams' k).length = exStreams'.length)) ∧
    ∀ k outs, (k, outs) ∈ out → outs.Perm (occ exStreams' k) :=
  C05_inter popMin popSpec_popMin exStreams' exStreams'_sorted
example : (allKeys exStreams').filter
    (fun k => decide ((occ exStreams' k).length = exStreams'.length)) = [[1]] := by decide
example : opCollect popMin .intersection exStreams' = some [([1], [⟨0, 2⟩, ⟨2, 2⟩, ⟨1, 7⟩])] := by
  decide
/-- an empty stream makes the intersection empty -/
example : opCollect popMin .intersection exStreams = some [] := by decide

example : ∃ out, opCollect popMin .symmetricDifference exStreams = some out ∧
    out.map (·.1) = (allKeys exStreams).filter (fun k => decide ((occ exStreams k).length % 2 = 1)) ∧
    ∀ k outs, (k, outs) ∈ out → outs.Perm (occ exStreams k) :=
  C05_symdiff popMin popSpec_popMin exStreams exStreams_sorted
example : (allKeys exStreams).filter (fun k => decide ((occ exStreams k).length % 2 = 1))
    = [[1], [2], [5]] := by decide
example : opCollect popMin .symmetricDifference exStreams = some
    [([1], [⟨0, 2⟩, ⟨3, 2⟩, ⟨2, 7⟩]), ([2], [⟨2, 5⟩]), ([5], [⟨0, 6⟩])] := by decide

example : opCollect popMin .difference exStreams = some [([5], [⟨0, 6⟩])] := by
  rw [C05_diff popMin popSpec_popMin exStreams (by simp [exStreams]) exStreams_sorted]; decide
example : opCollect popMin .difference exStreams = some [([5], [⟨0, 6⟩])] := by decide

def exA : KV := [([], 0), ([1], 1), ([2, 0], 2)]
def exB : KV := [([], 5), ([0], 0), ([1], 1), ([2, 0], 7), ([9], 9)]
def exC : KV := [([0], 3), ([9], 1)]
theorem exA_sorted : SortedKV exA := by simp [exA, SortedKV, lexLt]
theorem exB_sorted : SortedKV exB := by simp [exB, SortedKV, lexLt]
theorem exC_sorted : SortedKV exC := by simp [exC, SortedKV, lexLt]

example : isDisjoint popMin exA exC = true ↔ ∀ k, ¬ (KeyOf exA k ∧ KeyOf exC k) :=
  C05_disjoint popMin popSpec_popMin exA exC exA_sorted exC_sorted
example : isDisjoint popMin exA exC = true ∧ isDisjoint popMin exA exB = false := by decide
example : isSubset popMin exA exB = true ↔ ∀ k, KeyOf exA k → KeyOf exB k :=
  C05_subset popMin popSpec_popMin exA exB exA_sorted exB_sorted
example : isSubset popMin exA exB = true ∧ isSubset popMin exB exA = false := by decide
example : isSuperset popMin exB exA = true ↔ ∀ k, KeyOf exA k → KeyOf exB k :=
  C05_superset popMin popSpec_popMin exB exA exB_sorted exA_sorted
example : isSuperset popMin exB exA = true ∧ isSuperset popMin exA exB = false := by decide

end Fst.Ops
