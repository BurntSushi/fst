import FstVerif.Proofs.Den
/-
Reachability between addresses of a store, along the transitions of its nodes.
-/
namespace Fst

/-- `b` is reachable from `a` along transitions of stored nodes -/
inductive ReachFrom (s : Store) : Nat → Nat → Prop
  | refl (a : Nat) : ReachFrom s a a
  | step {a : Nat} {n : BNode} {t : Tr} {b : Nat} :
      (a, n) ∈ s → t ∈ n.trans → ReachFrom s t.addr b → ReachFrom s a b

theorem ReachFrom.mono {s s' : Store} (h : ∀ p ∈ s, p ∈ s') {a b : Nat} (hr : ReachFrom s a b) :
    ReachFrom s' a b := by
  induction hr with
  | refl => exact ReachFrom.refl _
  | step hm ht _ ih => exact ReachFrom.step (h _ hm) ht ih

theorem ReachFrom.le {s : Store} {den : Nat → KV} (hg : GoodStore s den) {a b : Nat}
    (h : ReachFrom s a b) : b ≤ a := by
  induction h with
  | refl => exact Nat.le_refl _
  | step hm ht _ ih => have := (hg.acyclic _ _ hm _ ht).1; omega

end Fst
