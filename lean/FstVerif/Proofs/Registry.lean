import FstVerif.Proofs.Den
import FstVerif.Model.Build
/-
The node cache (`Model/Registry.lean`, mirror of `src/raw/registry.rs`).
* `bucketEntry_spec`, `entry_found_spec`, `entry_notFound_spec`, `entry_rejected`: what `Registry.entry`
  does, completely: only the bucket `slot r n` changes (`setBucket`).
* `Buckets P`: the table has `rows` buckets and each satisfies `P`; kept by a lookup if `P` survives moving a
  cell to the front and recycling the last cell (`Buckets.lookup`). `RegSound` (every occupied cell holds an
  (address, node) pair of the store; kept by `entry_found`, `entry_notFound_insert`) is `Buckets` of a predicate;
  `MinP.Geo` (a cache that never rejects) and `Bounds.RegShape` (Proofs/BoundsBuild.lean) are structures of their
  own, obtained from a `Buckets` (`Geo.buckets` / `Geo.of_buckets`, `RegShape.of_buckets`): `RegShape` is kept through
  `Buckets.lookup` (`Bounds.compile_shape`), `Geo` through `Buckets.set` and the `entry_*_spec` (`MinP.compile_full`).
* `MinP.Present`: the cache seen as a set of (address, node) pairs; a pair stays cached when the live cells of
  the replaced bucket stay in it (`Present.setBucket`).
`Registry.entry` followed (on `notFound`) by `Registry.insert` is treated as one step,
exactly as `BState.compile` uses them.
-/
namespace Fst

theorem promote_mem {cells : List Cell} {i : Nat} {c : Cell} (h : c ∈ promote cells i) :
    c ∈ cells := by
  unfold promote at h
  split at h
  · rename_i c0 hc0
    simp only [List.mem_cons] at h
    cases h with
    | inl e => subst e; exact List.mem_of_getElem? hc0
    | inr e => exact List.mem_of_mem_eraseIdx e
  · exact h

theorem entry_eq (r : Registry) (n : BNode) : r.entry n =
    if r.rows = 0 ∨ r.cols = 0 then (r, .rejected) else
    match bucketEntry (r.table.getD ((fnvNode n).toNat % r.rows) []) n with
    | (cells', found, ev) =>
      match found with
      | some a => ({ r with table := r.table.setIfInBounds ((fnvNode n).toNat % r.rows) cells',
                            evictions := r.evictions + (if ev then 1 else 0) }, .found a)
      | none => ({ r with table := r.table.setIfInBounds ((fnvNode n).toNat % r.rows) cells',
                          evictions := r.evictions + (if ev then 1 else 0) },
                 .notFound ((fnvNode n).toNat % r.rows)) := rfl

/-- a hit moves the live cell holding `n` to the front; a miss recycles the last cell -/
theorem bucketEntry_spec (cells : List Cell) (n : BNode) :
    (∃ l₁ c l₂, cells = l₁ ++ c :: l₂ ∧ c.isNone = false ∧ c.node = n ∧
        bucketEntry cells n = (c :: (l₁ ++ l₂), some c.addr, false)) ∨
    ((∀ x ∈ cells, ¬ (x.isNone = false ∧ x.node = n)) ∧
      ((cells = [] ∧ bucketEntry cells n = ([], none, false)) ∨
       ∃ l c, cells = l ++ [c] ∧ bucketEntry cells n = ({ c with node := n } :: l, none, !c.isNone))) := by
  unfold bucketEntry
  split
  · rename_i i hi
    left
    unfold bucketFind at hi
    obtain ⟨hlt, hp, _⟩ := List.findIdx?_eq_some_iff_getElem.mp hi
    simp only [Bool.and_eq_true, Bool.not_eq_true', beq_iff_eq] at hp
    refine ⟨cells.take i, cells[i], cells.drop (i + 1), ?_, hp.1, hp.2, ?_⟩
    · rw [← List.drop_eq_getElem_cons hlt, List.take_append_drop]
    · simp only [promote, List.getElem?_eq_getElem hlt, List.eraseIdx_eq_take_drop_succ, Option.map_some]
  · rename_i hnf
    right
    constructor
    · unfold bucketFind at hnf
      rw [List.findIdx?_eq_none_iff] at hnf
      intro x hx ⟨h1, h2⟩
      have := hnf x hx
      simp [h1, h2] at this
    · rcases List.eq_nil_or_concat cells with rfl | ⟨l, c, rfl⟩
      · exact Or.inl ⟨rfl, rfl⟩
      · right
        rw [List.concat_eq_append]
        refine ⟨l, c, rfl, ?_⟩
        simp [promote, List.eraseIdx_append_of_length_le]

namespace MinP

def slot (r : Registry) (n : BNode) : Nat := (fnvNode n).toNat % r.rows

/-- the bucket a node hashes to -/
def bucketOf (r : Registry) (n : BNode) : List Cell :=
  r.table.getD ((fnvNode n).toNat % r.rows) []

def setBucket (r : Registry) (n : BNode) (v : List Cell) (ev : Nat) : Registry :=
  { r with table := r.table.setIfInBounds (slot r n) v, evictions := ev }

end MinP
open MinP


theorem entry_spec (r : Registry) (n : BNode) :
    ((r.rows = 0 ∨ r.cols = 0) ∧ r.entry n = (r, .rejected)) ∨
    (0 < r.rows ∧ 0 < r.cols ∧ ∃ cells' found ev, bucketEntry (bucketOf r n) n = (cells', found, ev) ∧
      r.entry n = (setBucket r n cells' (r.evictions + (if ev then 1 else 0)),
                   match found with
                   | some a => .found a
                   | none => .notFound (slot r n))) := by
  rw [entry_eq]
  by_cases h : r.rows = 0 ∨ r.cols = 0
  · exact Or.inl ⟨h, if_pos h⟩
  · refine Or.inr ⟨by omega, by omega, ?_⟩
    rw [if_neg h]
    show ∃ cells' found ev, bucketEntry (r.table.getD ((fnvNode n).toNat % r.rows) []) n = _ ∧ _
    generalize bucketEntry (r.table.getD ((fnvNode n).toNat % r.rows) []) n = be
    obtain ⟨cells', found, ev⟩ := be
    exact ⟨cells', found, ev, rfl, by cases found <;> rfl⟩

theorem getD_set (t : Array (List Cell)) (b b' : Nat) (v : List Cell) (hb : b < t.size) :
    (t.setIfInBounds b v).getD b' [] = if b' = b then v else t.getD b' [] := by
  rw [Array.getD_eq_getD_getElem?, Array.getD_eq_getD_getElem?, Array.getElem?_setIfInBounds]
  by_cases e : b = b'
  · subst e; simp [hb]
  · have : ¬ b' = b := fun h => e h.symm
    simp [e, this]

/-- rejection: only a cache without cells rejects, and it stays as it is -/
theorem entry_rejected {r r' : Registry} {n : BNode} (h : r.entry n = (r', .rejected)) :
    r' = r ∧ (r.rows = 0 ∨ r.cols = 0) := by
  rcases entry_spec r n with ⟨h0, e⟩ | ⟨_, _, _, found, _, _, e⟩
  · rw [e] at h; cases h; exact ⟨rfl, h0⟩
  · rw [e] at h; cases found <;> cases h

/-- a hit: the live cell holding `n` moves to the front of its bucket -/
theorem entry_found_spec {r r' : Registry} {n : BNode} {a : Nat} (h : r.entry n = (r', .found a)) :
    0 < r.rows ∧ ∃ l₁ c l₂, bucketOf r n = l₁ ++ c :: l₂ ∧ c.isNone = false ∧ c.node = n ∧ c.addr = a ∧
      r' = setBucket r n (c :: (l₁ ++ l₂)) r.evictions := by
  rcases entry_spec r n with ⟨_, e⟩ | ⟨hr, _, cells', found, ev, hb, e⟩
  · rw [e] at h; cases h
  · rw [e] at h
    rcases bucketEntry_spec (bucketOf r n) n with ⟨l₁, c, l₂, h1, h2, h3, h4⟩ | ⟨_, ⟨_, h4⟩ | ⟨_, _, _, h4⟩⟩
    · rw [h4] at hb; cases hb; cases h
      exact ⟨hr, l₁, c, l₂, h1, h2, h3, rfl, rfl⟩
    · rw [h4] at hb; cases hb; cases h
    · rw [h4] at hb; cases hb; cases h

/-- a miss, completed by `insert` as in `BState.compile`: no live cell of the bucket held `n`; the
last cell is recycled for `(addr, n)` and moves to the front (an eviction if it was live) -/
theorem entry_notFound_spec {r r' : Registry} {n : BNode} {b : Nat} (h : r.entry n = (r', .notFound b))
    (addr : Nat) :
    0 < r.rows ∧ b = slot r n ∧ (∀ x ∈ bucketOf r n, ¬ (x.isNone = false ∧ x.node = n)) ∧
    ((bucketOf r n = [] ∧ r'.insert b addr = setBucket r n [] r.evictions) ∨
     ∃ l c, bucketOf r n = l ++ [c] ∧
       r'.insert b addr = setBucket r n (⟨addr, n⟩ :: l) (r.evictions + (if !c.isNone then 1 else 0))) := by
  rcases entry_spec r n with ⟨_, e⟩ | ⟨hr, _, cells', found, ev, hb, e⟩
  · rw [e] at h; cases h
  · rw [e] at h
    rcases bucketEntry_spec (bucketOf r n) n with ⟨_, _, _, _, _, _, h4⟩ | ⟨hno, ⟨h0, h4⟩ | ⟨l, c, hl, h4⟩⟩
    · rw [h4] at hb; cases hb; cases h
    · rw [h4] at hb; cases hb; cases h
      refine ⟨hr, rfl, hno, Or.inl ⟨h0, ?_⟩⟩
      -- a bucket without cells: nothing is stored
      have hget : ∀ ev, (setBucket r n [] ev).table.getD (slot r n) [] = [] := by
        intro ev
        show (r.table.setIfInBounds (slot r n) []).getD (slot r n) [] = []
        rcases Nat.lt_or_ge (slot r n) r.table.size with hlt | hge
        · rw [getD_set _ _ _ _ hlt, if_pos rfl]
        · rw [Array.getD_eq_getD_getElem?, Array.getElem?_setIfInBounds, if_pos rfl, if_neg (Nat.not_lt.mpr hge)]; rfl
      unfold Registry.insert
      rw [hget]
      rfl
    · rw [h4] at hb; cases hb; cases h
      refine ⟨hr, rfl, hno, Or.inr ⟨l, c, hl, ?_⟩⟩
      have hlt : slot r n < r.table.size := by
        rcases Nat.lt_or_ge (slot r n) r.table.size with hlt | hge
        · exact hlt
        · unfold bucketOf at hl
          unfold slot at hge
          rw [Array.getD_eq_getD_getElem?, Array.getElem?_eq_none hge] at hl
          simp at hl
      unfold Registry.insert setBucket
      simp only [getD_set _ _ _ _ hlt, if_true, Array.setIfInBounds_setIfInBounds]

/-- the cache after `BState.compile` has looked `n` up and, on a miss, stored it at `addr` -/
abbrev after (r' : Registry) (e : REntry) (addr : Nat) : Registry :=
  match e with
  | .notFound b => r'.insert b addr
  | _ => r'

theorem insert_fields (r : Registry) (b addr : Nat) :
    (r.insert b addr).rows = r.rows ∧ (r.insert b addr).cols = r.cols ∧
      (r.insert b addr).evictions = r.evictions := by
  unfold Registry.insert
  split <;> exact ⟨rfl, rfl, rfl⟩

theorem after_fields {r r' : Registry} {n : BNode} {e : REntry} (h : r.entry n = (r', e)) (addr : Nat) :
    (after r' e addr).rows = r.rows ∧ (after r' e addr).cols = r.cols ∧
      r.evictions ≤ (after r' e addr).evictions := by
  have hr : r'.rows = r.rows ∧ r'.cols = r.cols ∧ r.evictions ≤ r'.evictions := by
    rcases entry_spec r n with ⟨_, e'⟩ | ⟨_, _, _, _, _, _, e'⟩
    · rw [e'] at h; cases h; exact ⟨rfl, rfl, Nat.le_refl _⟩
    · rw [e'] at h; cases h; exact ⟨rfl, rfl, Nat.le_add_right _ _⟩
  cases e with
  | notFound b => obtain ⟨i1, i2, i3⟩ := insert_fields r' b addr; simp only [after, i1, i2, i3]; exact hr
  | found a => exact hr
  | rejected => exact hr

/-- the table has `rows` buckets and each of them satisfies `P` -/
structure Buckets (P : List Cell → Prop) (r : Registry) : Prop where
  size : r.table.size = r.rows
  all : ∀ b ∈ r.table.toList, P b

theorem Buckets.new {P : List Cell → Prop} (rows : Nat) {cols : Nat} (h : P (List.replicate cols Cell.none)) :
    Buckets P (Registry.new rows cols) := by
  refine ⟨by simp [Registry.new], fun b hb => ?_⟩
  simp only [Registry.new, Array.toList_replicate] at hb
  rw [List.eq_of_mem_replicate hb]; exact h

theorem Buckets.slot_lt {P : List Cell → Prop} {r : Registry} (h : Buckets P r) (hr : 0 < r.rows) (n : BNode) :
    slot r n < r.table.size := by
  rw [h.size]; exact Nat.mod_lt _ hr

theorem Buckets.get {P : List Cell → Prop} {r : Registry} (h : Buckets P r) (hr : 0 < r.rows) (n : BNode) :
    P (bucketOf r n) := by
  have hlt := h.slot_lt hr n
  have : bucketOf r n = r.table[slot r n] := by
    unfold bucketOf
    rw [Array.getD_eq_getD_getElem?]
    exact (congrArg (·.getD []) (Array.getElem?_eq_getElem hlt))
  rw [this]; exact h.all _ (by simp)

theorem Buckets.set {P : List Cell → Prop} {r : Registry} (h : Buckets P r) (n : BNode) {v : List Cell}
    (hv : P v) (ev : Nat) : Buckets P (setBucket r n v ev) := by
  refine ⟨by simp [setBucket, h.size], fun b hb => ?_⟩
  simp only [setBucket, Array.toList_setIfInBounds] at hb
  rcases List.mem_or_eq_of_mem_set hb with h1 | rfl
  · exact h.all b h1
  · exact hv

theorem bucketOf_setBucket {P : List Cell → Prop} {r : Registry} (h : Buckets P r) (hr : 0 < r.rows)
    (n m : BNode) (v : List Cell) (ev : Nat) :
    bucketOf (setBucket r n v ev) m = if slot r m = slot r n then v else bucketOf r m :=
  getD_set _ _ _ _ (h.slot_lt hr n)

/-- a property of the buckets is kept by a lookup if moving a cell to the front keeps it and,
on a miss, so does recycling the last cell for the new node. `addr` is read on a miss only
(`after r' e _ = r'` otherwise): a caller that knows the outcome is a hit passes any number and
discharges `miss` by `nomatch`. -/
theorem Buckets.lookup {P : List Cell → Prop} {r r' : Registry} {n : BNode} {e : REntry} (h : Buckets P r)
    (he : r.entry n = (r', e)) (addr : Nat)
    (hit : ∀ l₁ c l₂, P (l₁ ++ c :: l₂) → P (c :: (l₁ ++ l₂)))
    (miss : ∀ b, e = .notFound b → ∀ l c, P (l ++ [c]) → P (⟨addr, n⟩ :: l)) :
    Buckets P (after r' e addr) := by
  cases e with
  | rejected => rw [(entry_rejected he).1]; exact h
  | found a =>
    obtain ⟨hr, l₁, c, l₂, hb, _, _, _, rfl⟩ := entry_found_spec he
    exact h.set n (hit _ _ _ (hb ▸ h.get hr n)) _
  | notFound b =>
    obtain ⟨hr, _, _, ⟨h0, e⟩ | ⟨l, c, hl, e⟩⟩ := entry_notFound_spec he addr
    · show Buckets P (r'.insert b addr)
      rw [e]; exact h.set n (h0 ▸ h.get hr n) _
    · show Buckets P (r'.insert b addr)
      rw [e]; exact h.set n (miss b rfl l c (hl ▸ h.get hr n)) _

/-- every occupied cell of the cache is an (address, node) pair of the store -/
def RegSound (reg : Registry) (store : Store) : Prop :=
  Buckets (fun cells => ∀ c ∈ cells, c.isNone = false → (c.addr, c.node) ∈ store) reg

theorem RegSound_new (rows cols : Nat) (st : Store) : RegSound (Registry.new rows cols) st :=
  Buckets.new rows fun c hc hn => by
    rw [List.eq_of_mem_replicate hc] at hn
    simp [Cell.isNone, Cell.none] at hn

theorem RegSound_mono {reg : Registry} {st st' : Store} (hsub : ∀ p ∈ st, p ∈ st')
    (h : RegSound reg st) : RegSound reg st' :=
  ⟨h.size, fun b hb c hc hn => hsub _ (h.all b hb c hc hn)⟩

theorem entry_found {r r' : Registry} {n : BNode} {a : Nat} {st : Store}
    (h : r.entry n = (r', .found a)) (hs : RegSound r st) :
    RegSound r' st ∧ (a, n) ∈ st := by
  refine ⟨hs.lookup h 0 (fun _ _ _ hP x hx => hP x (List.perm_middle.mem_iff.mpr hx))
    (fun _ e => nomatch e), ?_⟩
  obtain ⟨hr, l₁, c, l₂, hb, h2, h3, h4, _⟩ := entry_found_spec h
  exact h3 ▸ h4 ▸ hs.get hr n c (by simp [hb]) h2

theorem entry_notFound_insert {r r' : Registry} {n : BNode} {b addr : Nat} {st st' : Store}
    (h : r.entry n = (r', .notFound b)) (hs : RegSound r st)
    (hsub : ∀ p ∈ st, p ∈ st') (hnew : (addr, n) ∈ st') :
    RegSound (r'.insert b addr) st' :=
  (RegSound_mono hsub hs).lookup h addr (fun _ _ _ hP x hx => hP x (List.perm_middle.mem_iff.mpr hx))
    fun _ _ l c hP x hx hl => by
      rcases List.mem_cons.mp hx with rfl | hx
      · exact hnew
      · exact hP x (List.mem_append_left _ hx) hl

namespace MinP

/-- geometry of a cache that never rejects -/
structure Geo (r : Registry) : Prop where
  rows_pos : 1 ≤ r.rows
  cols_pos : 1 ≤ r.cols
  size : r.table.size = r.rows
  width : ∀ (b : Nat) (cells : List Cell), r.table[b]? = some cells → cells.length = r.cols

theorem Geo.buckets {r : Registry} (g : Geo r) : Buckets (·.length = r.cols) r :=
  ⟨g.size, fun b hb => by
    obtain ⟨i, hi, rfl⟩ := List.mem_iff_getElem.mp hb
    exact g.width i _ (by simp at hi; simp [hi])⟩

theorem Geo.of_buckets {r : Registry} (hr : 1 ≤ r.rows) (hc : 1 ≤ r.cols) (h : Buckets (·.length = r.cols) r) :
    Geo r :=
  ⟨hr, hc, h.size, fun _ cells hb => h.all cells (Array.mem_toList_iff.mpr (Array.mem_of_getElem? hb))⟩

/-- the emitted node sits in a live cell of its bucket -/
def Present (r : Registry) (e : Emit) : Prop :=
  ∃ c ∈ bucketOf r e.node, c.addr = e.addr ∧ c.node = e.node ∧ c.isNone = false

/-- a pair stays cached when the live cells of the replaced bucket stay in it -/
theorem Present.setBucket {r : Registry} (g : Geo r) {n : BNode} {v : List Cell} (ev : Nat)
    (hv : ∀ c ∈ bucketOf r n, c.isNone = false → c ∈ v) {e : Emit} (h : Present r e) :
    Present (setBucket r n v ev) e := by
  obtain ⟨x, hx, h1, h2, h3⟩ := h
  refine ⟨x, ?_, h1, h2, h3⟩
  rw [bucketOf_setBucket g.buckets g.rows_pos]
  split
  · rename_i hs
    have : bucketOf r e.node = bucketOf r n := by unfold bucketOf slot at *; rw [hs]
    exact hv x (this ▸ hx) h3
  · exact hx

end MinP
end Fst
