import FstVerif.Proofs.SchedA
import FstVerif.Proofs.SchedB
import FstVerif.Proofs.Merge
/-
The `Sorters` thread/channel protocol of `fst-bin/src/merge.rs` (`Model/Sched.lean`): `applyOrder`,
and the composition of what Proofs/SchedA.lean (invariant, measure) and Proofs/SchedB.lean (completeness)
prove about the protocol with the data-flow model of `Merger::merge` (`Model/Merge.lean`): the merge result is the specification for
every number of threads and every interleaving of every generation (`C19_threads`).
-/
namespace Fst.Sched

/-! ### `applyOrder` of a permutation of the indices is a permutation of the results -/

theorem applyOrder_range {α : Type} : ∀ (xs : List α), applyOrder (List.range xs.length) xs = xs
  | [] => rfl
  | x :: xs => by
    have ih := applyOrder_range xs
    simp only [applyOrder] at ih ⊢
    rw [List.length_cons, List.range_succ_eq_map, List.filterMap_cons, List.filterMap_map]
    simp only [List.getElem?_cons_zero]
    congr 1

theorem applyOrder_perm {α : Type} {order : List Nat} {xs : List α}
    (h : order.Perm (List.range xs.length)) : (applyOrder order xs).Perm xs :=
  (h.filterMap (xs[·]?)).trans (.of_eq (applyOrder_range xs))

/-! ### composition with the merge data flow -/

/-- the schedule induced by the thread protocol: generation `g` with results `xs` runs the
interleaving `choice g xs.length` of `threads` workers; a choice that is not an execution
(an event not enabled, or a non-terminal end state) is ignored -/
def schedOf (threads : Nat) (choice : Nat → Nat → List Ev) : Nat → List KV → List KV :=
  fun g xs =>
    match run (init threads xs.length) (choice g xs.length) with
    | some s => if s.terminal then applyOrder s.collected xs else xs
    | none => xs

theorem schedOf_perm (threads : Nat) (choice : Nat → Nat → List Ev) :
    ∀ g xs, (schedOf threads choice g xs).Perm xs := by
  intro g xs
  fun_cases schedOf threads choice g xs
  case case1 s hs ht => exact applyOrder_perm (sorters_perm ⟨_, hs⟩ ht) -- a terminal execution
  all_goals exact .refl _

open Fst.MergeProofs in
/-- with `threads = 0` no execution of a non-empty generation is terminal, `schedOf` is the identity
there, and the statement says nothing about the protocol -/
theorem C19_threads (m : MergeMode) (batchSize fd : Nat) (hfd : 2 ≤ fd) (threads : Nat)
    (choice : Nat → Nat → List Ev) (rows : List (Key × Nat)) :
    mergeAll m batchSize fd (schedOf threads choice) rows = some (Spec.merged m rows) :=
  C19_result_final m batchSize fd hfd (schedOf threads choice) (schedOf_perm threads choice) rows

/-! ### examples and non-vacuity -/

/-- 2 workers, 3 batches: worker 0 takes batch 0 and is slow; worker 1 takes 1 and 2 and
hands over first -/
def demoEvs : List Ev :=
  [.recv 0, .recv 1, .work 1, .recv 1, .work 1, .close, .finish 1, .work 0, .finish 0]

example : (run (init 2 3) demoEvs).map (·.collected) = some [1, 2, 0] := by decide
example : (run (init 2 3) demoEvs).map (·.terminal) = some true := by decide
example : validOrder 2 3 [1, 2, 0] = true := by decide
example : validOrder 1 3 [1, 2, 0] = false := by decide
example : validOrder 2 3 [2, 1, 0] = false := by decide
example : validOrder 3 3 [2, 1, 0] = true := by decide
example : validOrder 1 3 [0, 1, 2] = true := by decide
-- a disabled event (worker 0 already holds a batch)
example : run (init 2 3) [.recv 0, .recv 0] = none := by decide
-- no result vector can be handed over before the sender is dropped
example : run (init 2 0) [.finish 0] = none := by decide

/-- the terminal state reached by `demoEvs` -/
def demoSt : St :=
  { next := 3, total := 3, closed := true,
    workers := [⟨none, [0], true⟩, ⟨none, [1, 2], true⟩], collected := [1, 2, 0] }

theorem demo_run : run (init 2 3) demoEvs = some demoSt := by decide
theorem demo_reachable : Reachable 2 3 demoSt := ⟨demoEvs, demo_run⟩

example : demoSt.collected.Perm (List.range 3) := sorters_perm demo_reachable (by decide)
example : validOrder 2 3 demoSt.collected = true := sorters_order demo_reachable (by decide)
example : ∃ e, (step ⟨2, 3, false, [⟨some 0, [], false⟩, ⟨some 1, [], false⟩], []⟩ e).isSome :=
  sorters_progress (threads := 2) (total := 3) (by decide) ⟨[.recv 0, .recv 1], by decide⟩ (by decide)
example : demoEvs.length ≤ 2 * 3 + 2 + 1 := sorters_terminates demo_run
example : demoEvs.length = 9 := rfl
example : μ (init 2 3) = 9 ∧ μ demoSt = 0 := by decide
example : ∃ evs s, run (init 2 3) evs = some s ∧ s.terminal = true ∧ s.collected = [1, 2, 0] :=
  orders_complete (by decide)
example : ¬ ∃ s, Reachable 1 3 s ∧ s.terminal = true ∧ s.collected = [1, 2, 0] := by
  rw [← sorters_exact (by decide)]; decide
example : applyOrder [1, 2, 0] ["a", "b", "c"] = ["b", "c", "a"] := by decide
example : (applyOrder [1, 2, 0] ["a", "b", "c"]).Perm ["a", "b", "c"] :=
  applyOrder_perm (by decide)

/-- a choice of interleavings that is not the identity schedule: 3 results with 2 workers
are returned in the order `[1,2,0]` -/
def demoChoice : Nat → Nat → List Ev := fun _ n => if n = 3 then demoEvs else []

example : schedOf 2 demoChoice 0 [[([1], 1)], [([2], 2)], [([3], 3)]]
    = [[([2], 2)], [([3], 3)], [([1], 1)]] := by decide
example : schedOf 2 demoChoice 0 [[([1], 1)], [([2], 2)]] = [[([1], 1)], [([2], 2)]] := by decide

open Fst.MergeProofs in
example : mergeAll .sum 1 2 (schedOf 2 demoChoice) [([98], 1), ([97], 2), ([98], 5)]
    = some (Spec.merged .sum [([98], 1), ([97], 2), ([98], 5)]) :=
  C19_threads _ _ _ (by decide) _ _ _

end Fst.Sched
