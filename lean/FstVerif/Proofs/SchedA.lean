import FstVerif.Model.Sched
/-
The `Sorters` thread/channel protocol (`Model/Sched.lean`), part A: `step` as a relation (`Step`:
the worker concerned exposed as `l1 ++ w :: l2`), induction over executions (`run_rec`), the
invariant of reachable states (`Inv`), and from it: every batch result is returned exactly once,
the returned order satisfies `validOrder`, no deadlock, and (by the measure `μ`) termination.
-/
namespace Fst.Sched

theorem getElem?_at {α : Type} (l1 l2 : List α) (w : α) : (l1 ++ w :: l2)[l1.length]? = some w := by simp

theorem set_at {α : Type} (l1 l2 : List α) (w x : α) :
    (l1 ++ w :: l2).set l1.length x = l1 ++ x :: l2 := by simp

/-- converse of `getElem?_at`: an element found at `i` splits the list there -/
theorem split_at {α : Type} {l : List α} {i : Nat} {w : α} (h : l[i]? = some w) :
    ∃ l1 l2, l = l1 ++ w :: l2 ∧ l1.length = i := by
  obtain ⟨hi, rfl⟩ := List.getElem?_eq_some_iff.1 h
  exact ⟨l.take i, l.drop (i + 1), by rw [← List.drop_eq_getElem_cons hi, List.take_append_drop],
    List.length_take_of_le (Nat.le_of_lt hi)⟩

theorem runs_append (l1 l2 : List Nat) : runs (l1 ++ l2) ≤ runs l1 + runs l2 := by
  induction l1 with
  | nil => simp [runs]
  | cons a t ih =>
    cases t with
    | nil =>
      cases l2 with
      | nil => simp [runs]
      | cons b r => simp only [List.cons_append, List.nil_append, runs]; split <;> omega
    | cons b r =>
      simp only [List.cons_append, runs] at ih ⊢
      split <;> omega

theorem runs_asc : ∀ (l : List Nat), l.Pairwise (· < ·) → runs l ≤ 1
  | [], _ => by simp [runs]
  | [_], _ => by simp [runs]
  | a :: b :: r, h => by
    have hab : a < b := (List.pairwise_cons.1 h).1 b (by simp)
    have := runs_asc (b :: r) (List.pairwise_cons.1 h).2
    simp only [runs, hab, if_true]; exact this

/-- pigeonhole: a list of length `n` that contains `0..n-1` is a permutation of it -/
theorem perm_range_of_length_of_mem : ∀ (n : Nat) (l : List Nat), l.length = n →
    (∀ i, i < n → i ∈ l) → l.Perm (List.range n)
  | 0, l, hl, _ => by
    have : l = [] := List.length_eq_zero_iff.1 hl
    subst this; exact List.Perm.refl _
  | n+1, l, hl, hm => by
    have hn := hm n (Nat.lt_succ_self n)
    have ih := perm_range_of_length_of_mem n (l.erase n) (by rw [List.length_erase_of_mem hn, hl]; rfl)
      fun i hi => (List.mem_erase_of_ne (Nat.ne_of_lt hi)).2 (hm i (Nat.lt_succ_of_lt hi))
    rw [List.range_succ]
    exact (List.perm_cons_erase hn).trans ((ih.cons n).trans (List.perm_append_singleton n _).symm)

/-! ### `step` as a relation -/

/-- the four transitions, with the worker concerned exposed as `l1 ++ w :: l2` -/
inductive Step : St → Ev → St → Prop
  | recv {n T : Nat} {l1 l2 : List Worker} {rs c : List Nat} (h : n < T) :
      Step ⟨n, T, false, l1 ++ ⟨none, rs, false⟩ :: l2, c⟩ (.recv l1.length)
        ⟨n + 1, T, false, l1 ++ ⟨some n, rs, false⟩ :: l2, c⟩
  | work {n T : Nat} {cl : Bool} {l1 l2 : List Worker} {b : Nat} {rs c : List Nat} :
      Step ⟨n, T, cl, l1 ++ ⟨some b, rs, false⟩ :: l2, c⟩ (.work l1.length)
        ⟨n, T, cl, l1 ++ ⟨none, rs ++ [b], false⟩ :: l2, c⟩
  | close {T : Nat} {ws : List Worker} {c : List Nat} :
      Step ⟨T, T, false, ws, c⟩ .close ⟨T, T, true, ws, c⟩
  | finish {n T : Nat} {l1 l2 : List Worker} {rs c : List Nat} :
      Step ⟨n, T, true, l1 ++ ⟨none, rs, false⟩ :: l2, c⟩ (.finish l1.length)
        ⟨n, T, true, l1 ++ ⟨none, rs, true⟩ :: l2, c ++ rs⟩

theorem step_of_Step {s s' : St} {e : Ev} (h : Step s e s') : step s e = some s' := by
  cases h <;> simp only [step, getElem?_at, set_at, *, and_self, if_true]

/-- inversion of the definition of `step`: each branch that returns `some` is one constructor -/
theorem Step_of_step {s s' : St} {e : Ev} (h : step s e = some s') : Step s e s' := by
  obtain ⟨n, T, cl, ws, c⟩ := s
  revert h
  fun_cases step _ e
  case case1 w hc rs hw => -- `recv`, enabled
    rintro ⟨⟩
    obtain ⟨l1, l2, rfl, rfl⟩ := split_at hw
    obtain ⟨hlt, rfl⟩ := hc
    rw [set_at]; exact .recv hlt
  case case4 w b rs hw => -- `work`, enabled
    rintro ⟨⟩
    obtain ⟨l1, l2, rfl, rfl⟩ := split_at hw
    rw [set_at]; exact .work
  case case6 hc => -- `close`, enabled
    rintro ⟨⟩
    dsimp only at hc
    obtain ⟨rfl, rfl⟩ := hc
    exact .close
  case case8 w hc rs hw => -- `finish`, enabled
    rintro ⟨⟩
    obtain ⟨l1, l2, rfl, rfl⟩ := split_at hw
    cases hc
    rw [set_at]; exact .finish
  all_goals nofun

theorem run_append (s : St) (e1 e2 : List Ev) :
    run s (e1 ++ e2) = (run s e1).bind (fun s' => run s' e2) := by
  induction e1 generalizing s with
  | nil => simp [run]
  | cons e es ih =>
    simp only [List.cons_append, run]
    cases step s e with
    | none => simp
    | some s' => simpa using ih s'

theorem run_rec {motive : St → List Ev → St → Prop} (nil : ∀ s, motive s [] s)
    (cons : ∀ {s e s1 es s'}, Step s e s1 → motive s1 es s' → motive s (e :: es) s') :
    ∀ {s evs s'}, run s evs = some s' → motive s evs s' := by
  intro s evs
  fun_induction run s evs with
  | case1 s => intro s' h; cases h; exact nil s
  | case2 s e es hs => nofun -- `e` not enabled
  | case3 s e es s1 hs ih => exact fun h => cons (Step_of_step hs) (ih h)

/-! ### the invariant -/

/-- every batch a worker has received so far, in order of reception; `work` does not change it -/
def Worker.all (w : Worker) : List Nat := w.results ++ w.held.toList

/-- results a worker still has to hand over (finished ones and the one in progress) -/
def Worker.pending (w : Worker) : List Nat := if w.done then [] else w.all

/-- a worker's batches are ascending (that they are `< next` follows from `Inv.perm`), and no
vector is handed over before the sender is dropped -/
structure WOk (closed : Bool) (w : Worker) : Prop where
  asc : w.all.Pairwise (· < ·)
  done : w.done = true → closed = true

/-- the invariant of the reachable protocol states: what has been collected and what the workers
still hold are together the batches handed out so far (`perm`), and at most one ascending run has
been collected per worker that is done (`runs`) -/
structure Inv (threads total : Nat) (s : St) : Prop where
  len : s.workers.length = threads
  tot : s.total = total
  le : s.next ≤ s.total
  closed : s.closed = true → s.next = s.total
  perm : (s.collected ++ s.workers.flatMap Worker.pending).Perm (List.range s.next)
  wok : ∀ w ∈ s.workers, WOk s.closed w
  runs : runs s.collected ≤ s.workers.countP (·.done)

theorem inv_init (threads total : Nat) : Inv threads total (init threads total) := by
  refine ⟨by simp [init], rfl, Nat.zero_le _, by simp [init],
    by simp [init, List.flatMap_replicate, Worker.pending, Worker.all], ?_, by simp [init, Sched.runs]⟩
  intro w h
  rw [List.eq_of_mem_replicate h]
  exact ⟨by simp [Worker.all], by simp⟩

/-- replacing one element of a list: a property of all elements survives if it survives there -/
theorem forall_replace {α : Type} {P : α → Prop} {l1 l2 : List α} {w w' : α}
    (h : ∀ x ∈ l1 ++ w :: l2, P x) (hw : P w → P w') : ∀ x ∈ l1 ++ w' :: l2, P x := by
  rw [List.forall_mem_append, List.forall_mem_cons] at h ⊢
  exact ⟨h.1, hw h.2.1, h.2.2⟩

/-- moving elements between `collected`, the pending part of one worker and the end of the range -/
theorem perm_replace {c c' R R' : List Nat} {l1 l2 : List Worker} {w w' : Worker}
    (h : (c ++ (l1 ++ w :: l2).flatMap Worker.pending).Perm R)
    (hc : ∀ a, (c' ++ w'.pending).count a + R.count a = (c ++ w.pending).count a + R'.count a) :
    (c' ++ (l1 ++ w' :: l2).flatMap Worker.pending).Perm R' := by
  rw [List.perm_iff_count] at h ⊢
  intro a
  have := h a
  have := hc a
  simp only [List.flatMap_append, List.flatMap_cons, List.count_append] at *
  omega

theorem inv_step {threads total : Nat} {s s' : St} {e : Ev} (hI : Inv threads total s)
    (h : Step s e s') : Inv threads total s' := by
  cases h with
  | @recv n T l1 l2 rs c hlt =>
    refine ⟨by simpa using hI.len, hI.tot, hlt, by simp, perm_replace hI.perm ?_,
      forall_replace hI.wok ?_, by simpa only [List.countP_append, List.countP_cons] using hI.runs⟩
    · intro a; simp [Worker.pending, Worker.all, List.range_succ]; omega
    · intro hw
      refine ⟨?_, by simp⟩
      simp only [Worker.all, Option.toList, List.pairwise_append]
      refine ⟨by simpa [Worker.all] using hw.asc, by simp, fun x hx y hy => ?_⟩
      -- `x` is pending, so it is one of the batches `0..n-1` handed out so far
      rw [List.mem_singleton.1 hy]
      -- without `List.mem_flatMap`: the existential over the workers it introduces is slow to resolve
      exact List.mem_range.1 (hI.perm.mem_iff.1
        (by simp [-List.mem_flatMap, Worker.pending, Worker.all, hx]))
  | @work n T cl l1 l2 b rs c =>
    refine ⟨by simpa using hI.len, hI.tot, hI.le, hI.closed, perm_replace hI.perm ?_,
      forall_replace hI.wok ?_, by simpa only [List.countP_append, List.countP_cons] using hI.runs⟩
    · intro a; simp [Worker.pending, Worker.all]
    · exact fun hw => ⟨by simpa [Worker.all] using hw.asc, by simp⟩
  | close =>
    exact ⟨hI.len, hI.tot, hI.le, fun _ => rfl, hI.perm,
      fun w hw => ⟨(hI.wok w hw).asc, fun _ => rfl⟩, hI.runs⟩
  | @finish n T l1 l2 rs c =>
    have hw := hI.wok ⟨none, rs, false⟩ (by simp)
    refine ⟨by simpa using hI.len, hI.tot, hI.le, hI.closed, perm_replace hI.perm ?_,
      forall_replace hI.wok ?_, ?_⟩
    · intro a; simp [Worker.pending, Worker.all]
    · exact fun _ => ⟨hw.asc, fun _ => rfl⟩
    · have h2 := runs_asc rs (by simpa [Worker.all] using hw.asc)
      have hruns := hI.runs
      simp only [List.countP_append, List.countP_cons, Bool.false_eq_true, if_false, if_true, Nat.add_zero,
        ← Nat.add_assoc] at hruns ⊢
      exact Nat.le_trans (runs_append c rs) (Nat.add_le_add hruns h2)

/-- the states that some interleaving of the protocol reaches -/
def Reachable (threads total : Nat) (s : St) : Prop :=
  ∃ evs, run (init threads total) evs = some s

theorem reachable_inv {threads total : Nat} {s : St} (h : Reachable threads total s) :
    Inv threads total s := by
  obtain ⟨evs, h⟩ := h
  exact run_rec (motive := fun s _ s' => Inv threads total s → Inv threads total s')
    (fun _ hI => hI) (fun hs ih hI => ih (inv_step hI hs)) h (inv_init threads total)

/-! ### every batch exactly once -/

theorem sorters_perm {threads total : Nat} {s : St} (hr : Reachable threads total s)
    (ht : s.terminal = true) : s.collected.Perm (List.range total) := by
  have hI := reachable_inv hr
  obtain ⟨hc, hd⟩ : s.closed = true ∧ ∀ w ∈ s.workers, w.done = true := by
    simpa [St.terminal, List.all_eq_true] using ht
  have : s.workers.flatMap Worker.pending = [] :=
    List.flatMap_eq_nil_iff.2 fun w hw => by simp [Worker.pending, hd w hw]
  have hp := hI.perm
  rwa [this, List.append_nil, hI.closed hc, hI.tot] at hp

/-! ### the returned order is valid -/

/-- `validOrder` says: a permutation of the batches with at most `threads` ascending runs -/
theorem validOrder_iff_perm {threads total : Nat} {order : List Nat} :
    validOrder threads total order = true ↔ order.Perm (List.range total) ∧ runs order ≤ threads := by
  have : validOrder threads total order = true ↔
      order.length = total ∧ (∀ i, i < total → i ∈ order) ∧ runs order ≤ threads := by
    simp [validOrder, List.all_eq_true, and_assoc]
  rw [this]
  constructor
  · rintro ⟨hl, hm, hr⟩; exact ⟨perm_range_of_length_of_mem total order hl hm, hr⟩
  · rintro ⟨hp, hr⟩
    exact ⟨by simpa using hp.length_eq, fun i hi => hp.mem_iff.2 (List.mem_range.2 hi), hr⟩

theorem sorters_order {threads total : Nat} {s : St} (hr : Reachable threads total s)
    (ht : s.terminal = true) : validOrder threads total s.collected = true :=
  have hI := reachable_inv hr
  validOrder_iff_perm.2 ⟨sorters_perm hr ht, Nat.le_trans hI.runs (hI.len ▸ List.countP_le_length)⟩

/-! ### deadlock freedom -/

theorem sorters_progress {threads total : Nat} {s : St} (hth : 1 ≤ threads)
    (hr : Reachable threads total s) (ht : s.terminal = false) : ∃ e, (step s e).isSome := by
  have hI := reachable_inv hr
  suffices ∃ e s', Step s e s' by
    obtain ⟨e, s', h⟩ := this
    exact ⟨e, by rw [step_of_Step h]; rfl⟩
  obtain ⟨n, T, cl, ws, c⟩ := s
  -- some worker has not handed over its vector: before `close` none has, and there is one
  obtain ⟨w, hw, hd⟩ : ∃ w ∈ ws, w.done = false := by
    cases cl with
    | true => simpa only [Bool.not_eq_true] using List.all_eq_false.1 ht
    | false =>
      cases ws with
      | nil => exact absurd hI.len (Nat.ne_of_lt hth)
      | cons w l2 =>
        refine ⟨w, List.mem_cons_self, Bool.eq_false_iff.2 fun hd => ?_⟩
        have := (hI.wok _ List.mem_cons_self).done hd; simp at this
  obtain ⟨l1, l2, rfl⟩ := List.append_of_mem hw
  obtain ⟨held, rs, done⟩ := w
  cases hd
  cases held with
  | some b => exact ⟨_, _, .work⟩
  | none =>
    cases cl with
    | true => exact ⟨_, _, .finish⟩
    | false =>
      by_cases hn : n = T
      · subst hn; exact ⟨_, _, .close⟩
      · exact ⟨_, _, .recv (Nat.lt_of_le_of_ne hI.le hn)⟩

/-! ### termination -/

/-- a measure that every enabled event decreases by exactly one -/
def μ (s : St) : Nat :=
  2 * (s.total - s.next) + s.workers.countP (·.held.isSome) + (if s.closed then 0 else 1)
    + s.workers.countP (fun w => !w.done)

theorem step_measure {s s' : St} {e : Ev} (h : Step s e s') : μ s = μ s' + 1 := by
  cases h <;> simp only [μ, List.countP_append, List.countP_cons, Option.isSome_none,
    Option.isSome_some, Bool.not_false, Bool.not_true, Bool.false_eq_true, if_false, if_true] <;> omega

theorem run_length {s s' : St} {evs : List Ev} (h : run s evs = some s') :
    μ s = evs.length + μ s' :=
  run_rec (motive := fun s evs s' => μ s = evs.length + μ s') (fun _ => by simp)
    (fun hs ih => by rw [step_measure hs, ih, List.length_cons]; omega) h

theorem sorters_terminates {threads total : Nat} {evs : List Ev} {s : St}
    (h : run (init threads total) evs = some s) : evs.length ≤ 2 * total + threads + 1 := by
  -- the measure of the initial state; it bounds the length of the run
  have hμ : μ (init threads total) = 2 * total + 1 + threads := by
    simp [μ, init, List.countP_replicate]
  have := run_length h
  omega

end Fst.Sched
