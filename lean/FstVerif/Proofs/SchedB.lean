import FstVerif.Proofs.SchedA
/-
Proofs about the `Sorters` protocol, part B: completeness. Every order accepted by
`validOrder threads total` is returned by some interleaving (`orders_complete`), so
together with `sorters_order` the predicate describes exactly the achievable orders
(`sorters_exact`).

Construction: cut the order into its maximal ascending runs (at most `threads`), pad
with empty vectors, give worker `j` the batches of run `j` (phase 1: `recv j, work j` for
batch 0, 1, …), close, and let the workers finish in index order (phase 2).
-/
namespace Fst.Sched

/-- a worker holding no batch, with results `r`: before (`mkW`) and after (`mkD`) it has sent them -/
abbrev mkW (r : List Nat) : Worker := ⟨none, r, false⟩
abbrev mkD (r : List Nat) : Worker := ⟨none, r, true⟩

/-! ### phase 1: distributing the batches according to an assignment -/

/-- the largest element of an ascending list is its last -/
theorem last_of_asc {r : List Nat} {n : Nat} (hasc : r.Pairwise (· < ·)) (hmem : n ∈ r)
    (hlt : ∀ x ∈ r, x < n + 1) : ∃ r', r = r' ++ [n] := by
  obtain ⟨r', t, rfl⟩ := List.append_of_mem hmem
  cases t with
  | nil => exact ⟨r', rfl⟩
  | cons b t =>
    have := hlt b (by simp)
    have := (List.pairwise_cons.1 (List.pairwise_append.1 hasc).2.1).1 b (by simp)
    omega

theorem phase1 : ∀ (n : Nat) (assign : List (List Nat)), (∀ r ∈ assign, r.Pairwise (· < ·)) →
    assign.flatten.Perm (List.range n) → ∀ T, n ≤ T →
    ∃ evs, run ⟨0, T, false, List.replicate assign.length ⟨none, [], false⟩, []⟩ evs
      = some ⟨n, T, false, assign.map mkW, []⟩ := by
  intro n
  induction n with
  | zero =>
    intro assign _ hp T _
    have : assign = List.replicate assign.length [] :=
      List.eq_replicate_iff.2 ⟨rfl, List.flatten_eq_nil_iff.1 hp.eq_nil⟩
    refine ⟨[], ?_⟩
    rw [this]
    simp [run]
  | succ n ih =>
    intro assign hasc hp T hT
    have hn : n ∈ assign.flatten := hp.mem_iff.2 (List.mem_range.2 (Nat.lt_succ_self n))
    obtain ⟨r, hr, hnr⟩ := List.mem_flatten.1 hn
    obtain ⟨a1, a2, rfl⟩ := List.append_of_mem hr
    have hlt : ∀ x ∈ r, x < n + 1 := fun x hx =>
      List.mem_range.1 (hp.mem_iff.1 (List.mem_flatten.2 ⟨r, hr, hx⟩))
    obtain ⟨r', rfl⟩ := last_of_asc (hasc r hr) hnr hlt
    have hasc' := forall_replace hasc fun h : (r' ++ [n]).Pairwise (· < ·) => (List.pairwise_append.1 h).1
    have hp' : (a1 ++ r' :: a2).flatten.Perm (List.range n) := by
      rw [List.perm_iff_count] at hp ⊢
      intro a
      have := hp a
      simp only [List.range_succ, List.flatten_append, List.flatten_cons, List.count_append] at this ⊢
      omega
    obtain ⟨evs, he⟩ := ih (a1 ++ r' :: a2) hasc' hp' T (Nat.le_of_succ_le hT)
    -- the worker that gets batch `n` is the one after `a1`; its index is written the way `step` will meet it
    refine ⟨evs ++ [.recv (a1.map mkW).length, .work (a1.map mkW).length], ?_⟩
    rw [run_append, show (a1 ++ (r' ++ [n]) :: a2).length = (a1 ++ r' :: a2).length by simp, he]
    simp only [Option.bind_some, run, List.map_append, List.map_cons,
      step_of_Step (.recv hT), step_of_Step .work]

/-! ### phase 2: the workers finish in index order -/

theorem phase2 (n T : Nat) : ∀ (rest : List (List Nat)) (dn : List Worker) (c : List Nat),
    ∃ evs, run ⟨n, T, true, dn ++ rest.map mkW, c⟩ evs
      = some ⟨n, T, true, dn ++ rest.map mkD, c ++ rest.flatten⟩
  | [], dn, c => ⟨[], by simp [run]⟩
  | r :: rest, dn, c => by
    obtain ⟨evs, he⟩ := phase2 n T rest (dn ++ [mkD r]) (c ++ r)
    refine ⟨.finish dn.length :: evs, ?_⟩
    simp only [run, List.map_cons, step_of_Step .finish]
    simpa using he

/-- any assignment of the batches to the workers (one strictly ascending vector per worker,
together a permutation of all batches) is realised by an execution -/
theorem assign_complete (total : Nat) (assign : List (List Nat))
    (hasc : ∀ r ∈ assign, r.Pairwise (· < ·)) (hp : assign.flatten.Perm (List.range total)) :
    ∃ evs s, run (init assign.length total) evs = some s ∧ s.terminal = true ∧
      s.collected = assign.flatten := by
  obtain ⟨e1, h1⟩ := phase1 total assign hasc hp total (Nat.le_refl _)
  obtain ⟨e2, h2⟩ := phase2 total total assign [] []
  refine ⟨e1 ++ .close :: e2, ⟨total, total, true, assign.map mkD, assign.flatten⟩, ?_, ?_, ?_⟩
  · rw [run_append]
    simp only [init]
    rw [h1]
    simp only [Option.bind_some, run, step, and_self, if_true]
    simpa using h2
  · simp [St.terminal]
  · simp

/-! ### cutting an order into its ascending runs -/

/-- `split_runs` for a non-empty list `a :: l`, with the first run exposed (what the induction needs) -/
theorem split_runs' : ∀ (l : List Nat) (a : Nat), ∃ r parts, a :: l = (a :: r) ++ parts.flatten ∧
    parts.length + 1 = runs (a :: l) ∧ ∀ p ∈ (a :: r) :: parts, p.Pairwise (· < ·) := by
  intro l
  induction l with
  | nil => exact fun a => ⟨[], [], rfl, rfl, List.forall_mem_singleton.2 (List.pairwise_singleton ..)⟩
  | cons b t ih =>
    intro a
    obtain ⟨r, parts, hf, hl, hasc⟩ := ih b
    by_cases hab : a < b
    · refine ⟨b :: r, parts, by rw [hf]; rfl, by simpa [runs, hab] using hl,
        forall_replace (l1 := []) hasc fun hbr => List.pairwise_cons.2 ⟨?_, hbr⟩⟩
      intro x hx
      rcases List.mem_cons.1 hx with rfl | hx
      · exact hab
      · exact Nat.lt_trans hab ((List.pairwise_cons.1 hbr).1 x hx)
    · exact ⟨[], (b :: r) :: parts, by rw [hf]; simp, by simpa [runs, hab] using hl,
        List.forall_mem_cons.2 ⟨List.pairwise_singleton .., hasc⟩⟩

theorem split_runs : ∀ (l : List Nat), ∃ parts : List (List Nat),
    parts.flatten = l ∧ parts.length = runs l ∧ ∀ r ∈ parts, r.Pairwise (· < ·)
  | [] => ⟨[], rfl, rfl, by simp⟩
  | a :: l =>
    let ⟨r, parts, hf, hl, hasc⟩ := split_runs' l a
    ⟨(a :: r) :: parts, hf.symm, hl, hasc⟩

/-! ### completeness -/

/-- every order accepted by `validOrder` is the result of some interleaving, for any number of
workers (with none, `validOrder` forces `total = 0`, and `close` alone is a terminal execution) -/
theorem orders_complete {threads total : Nat} {order : List Nat}
    (h : validOrder threads total order = true) :
    ∃ evs s, run (init threads total) evs = some s ∧ s.terminal = true ∧ s.collected = order := by
  obtain ⟨hp, hr⟩ := validOrder_iff_perm.1 h
  obtain ⟨parts, rfl, hl, hasc⟩ := split_runs order
  -- one vector per run, the remaining workers get none
  have := assign_complete total (parts ++ List.replicate (threads - parts.length) [])
    (fun r hr => by
      rcases List.mem_append.1 hr with h | h
      · exact hasc r h
      · rw [List.eq_of_mem_replicate h]; exact .nil)
    (by simpa using hp)
  rw [List.length_append, List.length_replicate, Nat.add_sub_of_le (hl ▸ hr)] at this
  simpa only [List.flatten_append, List.flatten_replicate_nil, List.append_nil] using this

/-- `validOrder` is exactly the set of achievable orders (the hypothesis, that of
`sorters_progress`, is not needed) -/
theorem sorters_exact {threads total : Nat} {order : List Nat} (_hth : 1 ≤ threads) :
    validOrder threads total order = true ↔
      ∃ s, Reachable threads total s ∧ s.terminal = true ∧ s.collected = order := by
  constructor
  · intro h
    obtain ⟨evs, s, hr, ht, hc⟩ := orders_complete h
    exact ⟨s, ⟨evs, hr⟩, ht, hc⟩
  · rintro ⟨s, hr, ht, rfl⟩
    exact sorters_order hr ht

end Fst.Sched
