import FstVerif.Proofs.Stream
/-
The lower bound: after `seek_min` (`seekLoop` + the epilogue of `streamNew`) the stack's
continuation is exactly the entries of `den root` satisfying the lower bound;
together with `run_frame` (`Proofs/Stream.lean`) this gives `stream_correct`.
-/
namespace Fst
namespace StreamP

variable {N σ : Type}

theorem lowK_nil_left (incl : Bool) (b : UInt8) (bs : Key) : lowK incl (b :: bs) [] = false := by
  cases incl <;> simp [lowK, lexLt]

/-- a lower bound against a key, by their first bytes -/
theorem lowK_lt (incl : Bool) {b c : UInt8} (bs k : Key) (h : c < b) :
    lowK incl (b :: bs) (c :: k) = false := by
  cases incl <;> simp [lowK, lexLt, h, UInt8.lt_asymm h, (UInt8.ne_of_lt h).symm]

theorem lowK_eq (incl : Bool) (b : UInt8) (bs k : Key) :
    lowK incl (b :: bs) (b :: k) = lowK incl bs k := by
  cases incl <;> simp [lowK, lexLt, UInt8.lt_irrefl]

theorem lowK_gt (incl : Bool) {b c : UInt8} (bs k : Key) (h : b < c) :
    lowK incl (b :: bs) (c :: k) = true := by
  cases incl <;> simp [lowK, lexLt, h, UInt8.lt_asymm h, (UInt8.ne_of_lt h).symm]

theorem filter_lift (incl : Bool) (b : UInt8) (bs : Key) (o : Nat) (l : KV) :
    (lift b o l).filter (fun kv => lowK incl (b :: bs) kv.1) =
      lift b o (l.filter fun kv => lowK incl bs kv.1) := by
  simp [lift, List.filter_map, Function.comp_def, lowK_eq]

theorem filter_own_cons (incl : Bool) (n : BNode) (b : UInt8) (bs : Key) :
    (own n).filter (fun kv => lowK incl (b :: bs) kv.1) = [] := by
  cases hf : n.fin <;> simp [own, hf, lowK_nil_left]

theorem branches_filter_lt (den : Nat → KV) (incl : Bool) (b : UInt8) (bs : Key) (L : List Tr)
    (h : ∀ t ∈ L, t.inp < b) :
    (branches den L).filter (fun kv => lowK incl (b :: bs) kv.1) = [] := by
  rw [List.filter_eq_nil_iff]
  intro kv hkv
  obtain ⟨t, ht, r, hk⟩ := mem_branches hkv
  rw [hk, lowK_lt incl bs r (h t ht)]
  simp

theorem branches_filter_gt (den : Nat → KV) (incl : Bool) (b : UInt8) (bs : Key) (L : List Tr)
    (h : ∀ t ∈ L, b < t.inp) :
    (branches den L).filter (fun kv => lowK incl (b :: bs) kv.1) = branches den L := by
  rw [List.filter_eq_self]
  intro kv hkv
  obtain ⟨t, ht, r, hk⟩ := mem_branches hkv
  rw [hk, lowK_gt incl bs r (h t ht)]

/-- the lower bound has a next byte with no transition: everything from the first greater
transition on -/
theorem filter_den_notfound (den : Nat → KV) (incl : Bool) (n : BNode) (b : UInt8) (bs : Key)
    (i : Nat) (h1 : ∀ t ∈ n.trans.take i, t.inp < b) (h2 : ∀ t ∈ n.trans.drop i, b < t.inp) :
    (denNodeWith den n).filter (fun kv => lowK incl (b :: bs) kv.1) = contRel den n i := by
  have hsplit : denNodeWith den n =
      own n ++ (branches den (n.trans.take i) ++ branches den (n.trans.drop i)) := by
    conv => lhs; rw [denNodeWith_eq, ← List.take_append_drop i n.trans]
    simp only [branches, List.flatMap_append]
  rw [hsplit, List.filter_append, List.filter_append, filter_own_cons,
    branches_filter_lt den incl b bs _ h1, branches_filter_gt den incl b bs _ h2]
  rfl

/-- the lower bound's next byte has a transition: descend, and keep all later siblings -/
theorem filter_den_found (den : Nat → KV) (incl : Bool) (n : BNode) (hs : SortedInputs n)
    (b : UInt8) (bs : Key) (i : Nat) (h : transIdx n b = some i) :
    ∃ hi : i < n.trans.length, n.trans[i].inp = b ∧
      (denNodeWith den n).filter (fun kv => lowK incl (b :: bs) kv.1) =
        lift b n.trans[i].out ((den n.trans[i].addr).filter fun kv => lowK incl bs kv.1) ++
          contRel den n (i + 1) := by
  obtain ⟨hi, hb, h1, h2⟩ := transIdx_split hs h
  refine ⟨hi, hb, ?_⟩
  rw [den_split den n hi, List.filter_append, List.filter_append, List.filter_append,
    filter_own_cons, branches_filter_lt den incl b bs _ h1, branches_filter_gt den incl b bs _ h2,
    br, hb, filter_lift]
  rfl

/-- `position(|t| t.inp > b)` when `find_input` found nothing: smaller bytes before it,
greater bytes from it on -/
theorem posGreater_spec {acc : NodeAccess N} {s : Store} {den : Nat → KV} {x : N} {a : Nat} {n : BNode}
    (R : NodeRep acc s den x a n) {b : UInt8} (h : transIdx n b = none) :
    ∀ k i, n.trans.length = i + k → (∀ t ∈ n.trans.take i, t.inp < b) →
      ∃ p, posGreater acc x b k i = some p ∧ p ≤ n.trans.length ∧
        (∀ t ∈ n.trans.take p, t.inp < b) ∧ (∀ t ∈ n.trans.drop p, b < t.inp) := by
  intro k
  induction k with
  | zero =>
    intro i hl hlt
    exact ⟨i, rfl, by omega, hlt, by simp [List.drop_eq_nil_of_le (show n.trans.length ≤ i by omega)]⟩
  | succ k ih =>
    intro i hl hlt
    have hi : i < n.trans.length := by omega
    simp only [posGreater, R.trans i hi]
    by_cases hgt : n.trans[i].inp > b
    · rw [if_pos hgt]
      refine ⟨i, rfl, by omega, hlt, fun t ht => ?_⟩
      obtain ⟨j, hj, rfl⟩ := List.mem_drop_iff_getElem.1 ht
      rcases Nat.eq_zero_or_pos j with rfl | hj0
      · exact hgt
      · exact UInt8.lt_trans hgt ((List.pairwise_iff_getElem.1 R.sorted) _ _ hi (by omega) (by omega))
    · rw [if_neg hgt]
      refine ih (i + 1) (by omega) fun t ht => ?_
      rw [List.take_succ_eq_append_getElem hi, List.mem_append, List.mem_singleton] at ht
      rcases ht with ht | rfl
      · exact hlt t ht
      · have hne : ¬ n.trans[i].inp = b := by
          simpa using List.findIdx?_eq_none_iff.1 h _ (List.getElem_mem hi)
        exact (Std.lt_trichotomy _ b).resolve_right fun h => h.elim hne hgt

theorem filter_lowK_incl_nil (l : KV) : (l.filter fun kv => lowK true [] kv.1) = l := by
  rw [List.filter_eq_self]
  intro kv _
  simp [lowK_nil]

/-- From a node reached along the consumed part `inp` of the bound, the loop and
the epilogue leave a state from which the stream returns the entries below that node
satisfying the rest `key` of the bound, followed by what the given stack returns. -/
theorem seek_spec {acc : NodeAccess N} {A : Aut σ} {s : Store} {den : Nat → KV}
    (C : Ctx acc A s den) (root : Nat) (e : Bound) (incl : Bool) :
    ∀ key, key ≠ [] → ∀ a, a ≤ root → ∀ n x, NodeRep acc s den x a n →
      ∀ o inp p' stack X, RestPath root a inp p' → Runs acc A root ⟨p', none, stack, e⟩ X →
        Closed e inp X →
        ∃ inp' stack',
          (seekLoop acc A key x o (A.run A.start inp) inp stack).bind (seekFinish acc incl e) =
              some ⟨inp', none, stack', e⟩ ∧
            Runs acc A root ⟨inp', none, stack', e⟩
              (F A e (pre inp o ((denNodeWith den n).filter fun kv => lowK incl key kv.1)) ++ X) := by
  intro key
  induction key with
  | nil => intro h; exact absurd rfl h
  | cons b bs ih =>
    intro _ a hle n x R o inp p' stack X hp hrest hcl
    simp only [seekLoop, R.find b]
    cases hti : transIdx n b with
    | none =>
      obtain ⟨p, hpos, hle', h1, h2⟩ :=
        posGreater_spec R hti n.trans.length 0 (Nat.zero_add _).symm (by simp)
      rw [R.len, hpos]
      simp only [Option.bind_some, seekFinish]
      refine ⟨_, _, rfl, ?_⟩
      rw [filter_den_notfound den incl n b bs _ h1 h2]
      exact run_frame C root e a hle (n.trans.length - p) p n x R (Nat.add_sub_of_le hle').symm
        o inp p' stack X hp hrest hcl
    | some i =>
      obtain ⟨hi, hb, hfilt⟩ := filter_den_found den incl n R.sorted b bs i hti
      have htm : n.trans[i] ∈ n.trans := List.getElem_mem hi
      obtain ⟨hlt, hval⟩ := R.child _ htm
      obtain ⟨n', x', R'⟩ := valid_rep C.hg C.hr hval
      simp only [R.trans i hi, R'.node]
      -- the frame pushed by the loop, and what it returns
      have hf2 := run_frame C root e a hle (n.trans.length - (i + 1)) (i + 1) n x R
        (Nat.add_sub_of_le hi).symm o inp p' stack X hp hrest hcl
      have hcl2 := closed_step A e den n R.sorted i hi inp o X hcl
      rw [hb] at hcl2
      have hlt2 := Nat.lt_of_lt_of_le hlt hle
      have hp2 : RestPath root n.trans[i].addr (inp ++ [b]) inp := Or.inr ⟨Nat.ne_of_lt hlt2, _, rfl⟩
      rw [hfilt, pre_append, F_append, pre_lift,
        List.append_assoc]
      rw [← run_snoc]
      cases bs with
      | nil =>
        simp only [seekLoop, Option.bind_some, seekFinish]
        cases incl with
        | true =>
          simp only [if_true, Nat.add_eq_zero_iff, Nat.one_ne_zero, and_false, if_false,
            List.dropLast_concat, Nat.add_sub_cancel]
          refine ⟨_, _, rfl, ?_⟩
          have hf1 := run_frame C root e a hle (n.trans.length - i) i n x R
            (Nat.add_sub_of_le (Nat.le_of_lt hi)).symm o inp p' stack X hp hrest hcl
          rw [contRel_cons den n i hi, pre_append, F_append, pre_lift, hb, List.append_assoc] at hf1
          rw [filter_lowK_incl_nil]
          exact hf1
        | false =>
          simp only [Bool.false_eq_true, if_false, Nat.add_eq_zero_iff, Nat.one_ne_zero, and_false,
            Nat.add_sub_cancel, R.trans i hi, R'.node]
          refine ⟨_, _, rfl, ?_⟩
          have hc := run_frame C root e _ (Nat.le_of_lt hlt2) n'.trans.length 0 n' x' R'
            (Nat.zero_add _).symm (o + n.trans[i].out) (inp ++ [b]) inp
            (⟨x, i + 1, o, A.run A.start inp⟩ :: stack) _ hp2 hf2 hcl2
          rw [R'.den_eq, filter_lowK_nil]
          exact hc
      | cons b2 bs2 =>
        obtain ⟨inp', stack', he, hr⟩ := ih (by simp) n.trans[i].addr (Nat.le_of_lt hlt2) n' x' R'
          (o + n.trans[i].out) (inp ++ [b]) inp (⟨x, i + 1, o, A.run A.start inp⟩ :: stack) _
          hp2 hf2 hcl2
        refine ⟨inp', stack', he, ?_⟩
        rw [R'.den_eq]
        exact hr

end StreamP

open StreamP

variable {N σ : Type}

/-- `stream_correct` with the `canMatch` hint only required to be sound in the automaton
states reachable from the start state (this is all the stream ever looks at). -/
theorem stream_correct_reach {acc : NodeAccess N} {A : Aut σ} {s : Store} {den : Nat → KV}
    (hg : GoodStore s den) (hr : Represents acc s) (root : Nat)
    (hroot : root = 0 ∨ ∃ n, (root, n) ∈ s)
    (hEof : ∀ x, A.acceptEof x = none)
    (hCan : ∀ p, A.canMatch (A.run A.start p) = false →
      ∀ w, A.isMatch (A.run (A.run A.start p) w) = false)
    (min max : Bound) :
    ∃ s0, streamNew acc A root min max = some s0 ∧
    ∃ N, ∀ fuel, N ≤ fuel →
      streamCollect acc A root fuel s0 [] =
        some (((den root).filter fun kv =>
                lowerOK min kv.1 && upperOK max kv.1 && A.accepts kv.1).map
                fun kv => (kv.1, kv.2, A.run A.start kv.1)) := by
  cases hmin : min.isEmpty with
  | true => exact stream_correct_emptymin hg hr root hroot hEof hCan min max hmin
  | false =>
    obtain ⟨nr, r, R⟩ := valid_rep hg hr (show Valid s root from hroot)
    obtain ⟨inp', stack', he, hrun⟩ := seek_spec ⟨hg, hr, hEof, hCan⟩ root max min.isInclusive
      (Bounds.Bound.key min) (key_ne_nil min hmin) root (Nat.le_refl _) nr r R
      0 [] [] [] [] (Or.inl ⟨rfl, rfl⟩) (Runs.done (step_nil acc A root [] max)) (closed_nil max [])
    rw [final_form, R.den_eq, streamNew_seek acc A root min max hmin r R.node, lowerOK_eq]
    refine ⟨_, he, Runs.fuel ?_⟩
    simpa [pre_nil_zero] using hrun

/-- For every range and every automaton obeying the contract, the stream
never panics and yields exactly the entries of `den root` that are within the range and
accepted by the automaton, in the order of `den root`, each with its value and the
automaton state reached after the key, and then ends. -/
theorem stream_correct {acc : NodeAccess N} {A : Aut σ} {s : Store} {den : Nat → KV}
    (hg : GoodStore s den) (hr : Represents acc s) (root : Nat)
    (hroot : root = 0 ∨ ∃ n, (root, n) ∈ s)
    (hEof : ∀ x, A.acceptEof x = none)
    (hCan : ∀ x, A.canMatch x = false → ∀ w, A.isMatch (A.run x w) = false)
    (min max : Bound) :
    ∃ s0, streamNew acc A root min max = some s0 ∧
    ∃ N, ∀ fuel, N ≤ fuel →
      streamCollect acc A root fuel s0 [] =
        some (((den root).filter fun kv =>
                lowerOK min kv.1 && upperOK max kv.1 && A.accepts kv.1).map
                fun kv => (kv.1, kv.2, A.run A.start kv.1)) :=
  stream_correct_reach hg hr root hroot hEof (fun _ => hCan _) min max

theorem StreamP.den_sorted {s : Store} {den : Nat → KV} (hg : GoodStore s den) (a : Nat)
    (ha : a = 0 ∨ ∃ n, (a, n) ∈ s) : SortedKV (den a) :=
  Fst.den_sorted hg a ha

theorem stream_result_ascending {s : Store} {den : Nat → KV} (hg : GoodStore s den) (root : Nat)
    (hroot : root = 0 ∨ ∃ n, (root, n) ∈ s) (A : Aut σ) (min max : Bound) :
    (((den root).filter fun kv => lowerOK min kv.1 && upperOK max kv.1 && A.accepts kv.1).map
        fun kv => (kv.1, kv.2, A.run A.start kv.1)).Pairwise
      fun a b => lexLt a.1 b.1 = true := by
  rw [List.pairwise_map]
  exact (den_pSorted hg root hroot).filter _


/-- the stream with `AlwaysMatch` (which obeys the contract, `autAlways_contract`) is the
plain range -/
theorem stream_correct_always {acc : NodeAccess N} {s : Store} {den : Nat → KV}
    (hg : GoodStore s den) (hr : Represents acc s) (root : Nat)
    (hroot : root = 0 ∨ ∃ n, (root, n) ∈ s) (min max : Bound) :
    ∃ s0, streamNew acc autAlways root min max = some s0 ∧
    ∃ N, ∀ fuel, N ≤ fuel →
      streamCollect acc autAlways root fuel s0 [] =
        some (((den root).filter fun kv => lowerOK min kv.1 && upperOK max kv.1).map
                fun kv => (kv.1, kv.2, ())) := by
  have := stream_correct hg hr root hroot autAlways_contract.1 autAlways_contract.2 min max
  simpa only [Aut.accepts, autAlways, Bool.and_true] using this

/-- `Str` obeys the contract too (an automaton that really prunes) -/
theorem autStr_contract (k : Key) :
    (∀ x, (autStr k).acceptEof x = none) ∧
    (∀ x, (autStr k).canMatch x = false → ∀ w, (autStr k).isMatch ((autStr k).run x w) = false) :=
  ⟨fun _ => rfl, (C18_hints_str k).1⟩

/-- hint independence: two automata that differ only in `canMatch` / `willAlwaysMatch`
(both obeying the contract) give the same stream -/
theorem stream_hint_independent {acc : NodeAccess N} {A B : Aut σ} {s : Store} {den : Nat → KV}
    (hg : GoodStore s den) (hr : Represents acc s) (root : Nat)
    (hroot : root = 0 ∨ ∃ n, (root, n) ∈ s)
    (hstart : A.start = B.start) (hmatch : A.isMatch = B.isMatch) (haccept : A.accept = B.accept)
    (hEofA : ∀ x, A.acceptEof x = none)
    (hCanA : ∀ x, A.canMatch x = false → ∀ w, A.isMatch (A.run x w) = false)
    (hEofB : ∀ x, B.acceptEof x = none)
    (hCanB : ∀ x, B.canMatch x = false → ∀ w, B.isMatch (B.run x w) = false)
    (min max : Bound) :
    ∃ sA sB, streamNew acc A root min max = some sA ∧ streamNew acc B root min max = some sB ∧
    ∃ N, ∀ fuel, N ≤ fuel →
      streamCollect acc A root fuel sA [] = streamCollect acc B root fuel sB [] ∧
      (streamCollect acc A root fuel sA []).isSome = true := by
  obtain ⟨sA, hA, NA, hNA⟩ := stream_correct hg hr root hroot hEofA hCanA min max
  obtain ⟨sB, hB, NB, hNB⟩ := stream_correct hg hr root hroot hEofB hCanB min max
  refine ⟨sA, sB, hA, hB, NA + NB, fun fuel hf => ?_⟩
  have hrun : ∀ w, A.run A.start w = B.run B.start w := by
    intro w; simp [Aut.run, haccept, hstart]
  have hacc : ∀ w, A.accepts w = B.accepts w := by
    intro w; simp [Aut.accepts, hrun, hmatch]
  rw [hNA fuel (Nat.le_of_add_right_le hf), hNB fuel (Nat.le_of_add_left_le hf)]
  simp [hrun, hacc]

namespace StreamExample

example : ∃ s0, streamNew (storeAccess exStore) autAlways 5 (.included [97, 98]) (.excluded [98, 0]) = some s0 ∧
    ∃ N, ∀ fuel, N ≤ fuel →
      streamCollect (storeAccess exStore) autAlways 5 fuel s0 [] =
        some [([97, 98], 2, ()), ([98], 3, ())] :=
  stream_correct exGood (storeAccess_represents exStore) 5 exRoot
    autAlways_contract.1 autAlways_contract.2 (.included [97, 98]) (.excluded [98, 0])

example : ∃ s0, streamNew (storeAccess exStore) (autStr [97]) 5 (.excluded []) .unbounded = some s0 ∧
    ∃ N, ∀ fuel, N ≤ fuel →
      streamCollect (storeAccess exStore) (autStr [97]) 5 fuel s0 [] = some [([97], 1, some 1)] :=
  stream_correct exGood (storeAccess_represents exStore) 5 exRoot
    (autStr_contract [97]).1 (autStr_contract [97]).2 (.excluded []) .unbounded

/-- `Str` without its `can_match` hint -/
def autStrNoHint (k : Key) : Aut (Option Nat) := { autStr k with canMatch := fun _ => true }

example : ∃ sA sB,
    streamNew (storeAccess exStore) (autStr [97]) 5 .unbounded .unbounded = some sA ∧
    streamNew (storeAccess exStore) (autStrNoHint [97]) 5 .unbounded .unbounded = some sB ∧
    ∃ N, ∀ fuel, N ≤ fuel →
      streamCollect (storeAccess exStore) (autStr [97]) 5 fuel sA [] =
        streamCollect (storeAccess exStore) (autStrNoHint [97]) 5 fuel sB [] ∧
      (streamCollect (storeAccess exStore) (autStr [97]) 5 fuel sA []).isSome = true :=
  stream_hint_independent (A := autStr [97]) (B := autStrNoHint [97])
    exGood (storeAccess_represents exStore) 5 exRoot rfl rfl rfl
    (autStr_contract [97]).1 (autStr_contract [97]).2 (fun _ => rfl)
    (by intro x h; simp [autStrNoHint] at h) .unbounded .unbounded

/-- the model computes the same thing on this example -/
example : (streamNew (storeAccess exStore) autAlways 5 (.included [97, 98]) (.excluded [98, 0])).bind
    (fun s0 => streamCollect (storeAccess exStore) autAlways 5 20 s0 []) =
      some [([97, 98], 2, ()), ([98], 3, ())] := by decide

end StreamExample

end Fst
