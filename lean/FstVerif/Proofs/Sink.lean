import FstVerif.Model.Sink
import FstVerif.Proofs.BuildSide
/-
C07 (the byte counter equals what the sink accepted; over a benign sink the bytes
are those of the in-memory build) and C11 (faults surface, success implies a clean
script) for the scripted `io::Write`, std's `write_all` and `CountingWriter`
(`src/raw/counting_writer.rs`) of `Model/Sink.lean`.

The chunking law of the checksum, `ChunkLaw`, is a hypothesis here because this module does not
import Proofs/Crc.lean, where it is proved (`C08_chunking`; Props/C07.lean discharges it as
`C07_chunk_law`).

Vocabulary: `Ran c c' used written` — going from writer state `c` to `c'` consumed
the script prefix `used` and the sink accepted exactly `written`;
`Faulted used e` — `used` ends with the first failing response, whose error is `e`;
`Ended buf used written r` — how a `write_all` of `buf` ended;
`Served used r` / `Consumed before after r` — what the result `r` of a builder call says
about the responses it consumed.
-/
namespace Fst
namespace SinkProofs

def Benign (script : List Resp) : Prop :=
  ∀ r ∈ script, (∃ n, r = .take n ∧ 1 ≤ n) ∨ r = .interrupted
def Bad (r : Resp) : Prop := r = .take 0 ∨ ∃ k, r = .fail k
/-- the error a response leads to: `Sink.write`'s own for `interrupted` (`other 0`) and `fail k`
(`other (k+1)`), `write_all`'s `WriteZero` for `take 0`; on `take n`, `n ≥ 1`, the value is not used -/
def errOf : Resp → IoErr
  | .take _ => .writeZero
  | .fail k => .other (k+1)
  | .interrupted => .other 0
def ChunkLaw : Prop :=
  ∀ (s : Summer) (a b : List UInt8), (s.update a).update b = s.update (a ++ b)

variable {W : Type} (write : W → List UInt8 → W × Except IoErr Nat)

-- `waw_*`: the defining equations of `writeAllWith`, one per branch, for any `write` (used by `waw_proj`)
theorem waw_nil (fuel : Nat) (w : W) : writeAllWith write fuel w [] = some (w, .ok ()) := by
  cases fuel <;> rfl

theorem waw_zero {fuel : Nat} {w w' : W} {buf : List UInt8} (hb : buf ≠ [])
    (h : write w buf = (w', .ok 0)) :
    writeAllWith write (fuel+1) w buf = some (w', .error .writeZero) := by
  cases buf with
  | nil => contradiction
  | cons b bs => simp [writeAllWith, h]

theorem waw_succ {fuel : Nat} {w w' : W} {buf : List UInt8} (hb : buf ≠ []) {n : Nat} (hn : n ≠ 0)
    (h : write w buf = (w', .ok n)) :
    writeAllWith write (fuel+1) w buf = writeAllWith write fuel w' (buf.drop n) := by
  cases buf with
  | nil => contradiction
  | cons b bs =>
    cases n with
    | zero => contradiction
    | succ n => simp [writeAllWith, h]

theorem waw_intr {fuel : Nat} {w w' : W} {buf : List UInt8} (hb : buf ≠ [])
    (h : write w buf = (w', .error (.other 0))) :
    writeAllWith write (fuel+1) w buf = writeAllWith write fuel w' buf := by
  cases buf with
  | nil => contradiction
  | cons b bs => simp [writeAllWith, h]

theorem waw_err {fuel : Nat} {w w' : W} {buf : List UInt8} (hb : buf ≠ []) {e : IoErr}
    (he : e ≠ .other 0) (h : write w buf = (w', .error e)) :
    writeAllWith write (fuel+1) w buf = some (w', .error e) := by
  cases buf with
  | nil => contradiction
  | cons b bs =>
    cases e with
    | writeZero => simp [writeAllWith, h]
    | other k =>
      cases k with
      | zero => contradiction
      | succ k => simp [writeAllWith, h]


theorem CW.write_nil (c : CW) (buf : List UInt8) (h : c.sink.script = []) :
    c.write buf =
      (⟨{ c.sink with held := c.sink.held ++ buf.toArray, calls := c.sink.calls + 1 },
        c.cnt + buf.length, c.summer.update (buf.take buf.length)⟩, .ok buf.length) := by
  simp [CW.write, Sink.write, h]

theorem CW.write_take (c : CW) (buf : List UInt8) (n : Nat) (rest : List Resp)
    (h : c.sink.script = .take n :: rest) :
    c.write buf =
      (⟨{ c.sink with script := rest, calls := c.sink.calls + 1,
                      held := c.sink.held ++ (buf.take (min n buf.length)).toArray },
        c.cnt + min n buf.length, c.summer.update (buf.take (min n buf.length))⟩,
       .ok (min n buf.length)) := by
  simp [CW.write, Sink.write, h]

theorem CW.write_intr (c : CW) (buf : List UInt8) (rest : List Resp)
    (h : c.sink.script = .interrupted :: rest) :
    c.write buf =
      ({ c with sink := { c.sink with script := rest, calls := c.sink.calls + 1 } },
       .error (.other 0)) := by
  simp [CW.write, Sink.write, h]

theorem CW.write_fail (c : CW) (buf : List UInt8) (k : Nat) (rest : List Resp)
    (h : c.sink.script = .fail k :: rest) :
    c.write buf =
      ({ c with sink := { c.sink with script := rest, calls := c.sink.calls + 1 } },
       .error (.other (k+1))) := by
  simp [CW.write, Sink.write, h]

theorem Summer.update_nil (s : Summer) : s.update [] = s := by
  cases s with | mk sum => simp [Summer.update, crc32cSlice16, crcLoop]

structure Ran (c c' : CW) (used : List Resp) (written : List UInt8) : Prop where
  held : c'.sink.held = c.sink.held ++ written.toArray
  cnt : c'.cnt = c.cnt + written.length
  summer : ChunkLaw → c'.summer = c.summer.update written
  flush : c'.sink.flushFails = c.sink.flushFails
  script : c.sink.script = used ++ c'.sink.script

theorem Ran.refl (c : CW) : Ran c c [] [] :=
  ⟨by simp, by simp, fun _ => (Summer.update_nil _).symm, rfl, by simp⟩

theorem Ran.trans {c c1 c2 : CW} {u1 u2 : List Resp} {w1 w2 : List UInt8}
    (h1 : Ran c c1 u1 w1) (h2 : Ran c1 c2 u2 w2) : Ran c c2 (u1 ++ u2) (w1 ++ w2) where
  held := by rw [h2.held, h1.held]; simp [Array.append_assoc]
  cnt := by rw [h2.cnt, h1.cnt]; simp; omega
  summer := fun hc => by rw [h2.summer hc, h1.summer hc, hc]
  flush := by rw [h2.flush, h1.flush]
  script := by rw [h1.script, h2.script]; simp

theorem Benign.nil : Benign [] := List.forall_mem_nil _
theorem Benign.append {a b : List Resp} (ha : Benign a) (hb : Benign b) : Benign (a ++ b) :=
  List.forall_mem_append.mpr ⟨ha, hb⟩
theorem Benign.of_append_right {a b : List Resp} (h : Benign (a ++ b)) : Benign b :=
  fun r hr => h r (List.mem_append_right a hr)
theorem Benign.of_append_left {a b : List Resp} (h : Benign (a ++ b)) : Benign a :=
  fun r hr => h r (List.mem_append_left b hr)
theorem Benign.not_bad {a : List Resp} (h : Benign a) {r : Resp} (hr : r ∈ a) : ¬ Bad r := by
  intro hb
  rcases h r hr with ⟨n, rfl, hn⟩ | rfl
  · rcases hb with hb | ⟨k, hb⟩
    · cases hb; omega
    · cases hb
  · rcases hb with hb | ⟨k, hb⟩ <;> cases hb
theorem Benign.single_take {m : Nat} (h : 1 ≤ m) : Benign [.take m] :=
  List.forall_mem_singleton.mpr (.inl ⟨m, rfl, h⟩)
theorem Benign.single_intr : Benign [.interrupted] := List.forall_mem_singleton.mpr (.inr rfl)

/-- the responses `used` end with the first failing one, and `e` is the error it causes -/
def Faulted (used : List Resp) (e : IoErr) : Prop :=
  ∃ good bad, used = good ++ [bad] ∧ Benign good ∧ Bad bad ∧ e = errOf bad

theorem Faulted.single {bad : Resp} (h : Bad bad) : Faulted [bad] (errOf bad) :=
  ⟨[], bad, rfl, Benign.nil, h, rfl⟩

theorem Faulted.prepend {u1 used : List Resp} {e : IoErr} (h1 : Benign u1) (h : Faulted used e) :
    Faulted (u1 ++ used) e :=
  let ⟨good, bad, hu, hg, hb, he⟩ := h
  ⟨u1 ++ good, bad, by rw [hu, List.append_assoc], h1.append hg, hb, he⟩

theorem Faulted.not_benign {used : List Resp} {e : IoErr} (h : Faulted used e) : ¬ Benign used :=
  let ⟨_, _, hu, _, hb, _⟩ := h
  fun hben => hben.not_bad (by rw [hu]; simp) hb

theorem Faulted.first {before after used : List Resp} {e : IoErr} (hs : before = used ++ after)
    (h : Faulted used e) :
    ∃ good bad, before = good ++ bad :: after ∧ Benign good ∧ Bad bad ∧ e = errOf bad :=
  let ⟨good, bad, hu, hg, hb, he⟩ := h
  ⟨good, bad, by rw [hs, hu]; simp, hg, hb, he⟩

def Ended (buf : List UInt8) (used : List Resp) (written : List UInt8) :
    Except IoErr Unit → Prop
  | .ok () => Benign used ∧ written = buf
  | .error e => Faulted used e

theorem Ended.prepend {buf2 : List UInt8} {used : List Resp} {written : List UInt8}
    {r : Except IoErr Unit} (u1 : List Resp) (w1 : List UInt8) (hu : Benign u1)
    (h : Ended buf2 used written r) : Ended (w1 ++ buf2) (u1 ++ used) (w1 ++ written) r := by
  match r, h with
  | .ok (), ⟨hb, hw⟩ => exact ⟨hu.append hb, by rw [hw]⟩
  | .error e, hf => exact Faulted.prepend hu hf

/-- what one `write` served and wrote, by its result. `Ok(0)` says something only for `buf ≠ []`:
an exhausted script answers `Ok(0)` to an empty buffer too, and `write_all` never calls `write` on one -/
def WOut (buf : List UInt8) (used : List Resp) (written : List UInt8) : Except IoErr Nat → Prop
  | .ok n => written = buf.take n ∧ if n = 0 then buf ≠ [] → used = [.take 0] else Benign used
  | .error e => written = [] ∧ ∃ r, used = [r] ∧ e = errOf r ∧ (r = .interrupted ∨ ∃ k, r = .fail k)

theorem CW.write_spec (c : CW) (buf : List UInt8) {c' : CW} {r : Except IoErr Nat}
    (h : c.write buf = (c', r)) : ∃ used written, Ran c c' used written ∧ WOut buf used written r := by
  cases hs : c.sink.script with
  | nil =>
    rw [CW.write_nil c buf hs] at h
    cases h
    refine ⟨[], buf, ⟨rfl, rfl, fun _ => by simp, rfl, rfl⟩, by simp, ?_⟩
    split
    · intro hb; exact absurd (List.length_eq_zero_iff.mp ‹_›) hb
    · exact Benign.nil
  | cons r0 rest =>
    cases r0 with
    | take m =>
      rw [CW.write_take c buf m rest hs] at h
      cases h
      refine ⟨[.take m], buf.take (min m buf.length),
        ⟨rfl, by rw [List.length_take_of_le (Nat.min_le_right ..)], fun _ => rfl, rfl, hs⟩, rfl, ?_⟩
      split
      · rename_i h0
        intro hb
        have hm : m = 0 := (Nat.min_eq_zero_iff.mp h0).resolve_right (mt List.length_eq_zero_iff.mp hb)
        rw [hm]
      · rename_i h0
        exact Benign.single_take
          (Nat.pos_of_ne_zero fun hm => h0 (Nat.min_eq_zero_iff.mpr (.inl hm)))
    | interrupted =>
      rw [CW.write_intr c buf rest hs] at h
      cases h
      exact ⟨[.interrupted], [], ⟨by simp, rfl, fun _ => (Summer.update_nil _).symm, rfl, hs⟩,
        rfl, _, rfl, rfl, .inl rfl⟩
    | fail k =>
      rw [CW.write_fail c buf k rest hs] at h
      cases h
      exact ⟨[.fail k], [], ⟨by simp, rfl, fun _ => (Summer.update_nil _).symm, rfl, hs⟩,
        rfl, _, rfl, rfl, .inr ⟨k, rfl⟩⟩

/-- `write_all` ends within the fuel, and how: the induction is the one `writeAllWith` is defined by -/
theorem waw_spec (fuel : Nat) (c : CW) (buf : List UInt8)
    (h : c.sink.script.length + buf.length ≤ fuel) :
    ∃ c' r used written, writeAllWith CW.write fuel c buf = some (c', r) ∧
      Ran c c' used written ∧ Ended buf used written r := by
  fun_induction writeAllWith CW.write fuel c buf with
  | case1 t c => exact ⟨c, _, [], [], rfl, Ran.refl c, Benign.nil, rfl⟩  -- empty buffer
  | case2 c b bs => simp at h  -- out of fuel: excluded by the bound
  | case3 fuel c buf hb c1 hw =>  -- `Ok(0)`
    obtain ⟨u, w, hran, hwr, hu⟩ := CW.write_spec _ _ hw
    rw [if_pos rfl] at hu
    rw [hu hb] at hran
    exact ⟨c1, _, _, _, rfl, hran, Faulted.single (.inl rfl)⟩
  | case4 fuel c buf hb c1 n hn hw ih =>  -- `Ok(n)`, `n ≠ 0`
    obtain ⟨u, w, hran, rfl, hu⟩ := CW.write_spec _ _ hw
    rw [if_neg hn] at hu
    have hs : c1.sink.script.length ≤ c.sink.script.length :=
      hran.script ▸ (List.sublist_append_right ..).length_le
    -- the bound by hand: `omega` is slow over `buf.length - n`
    have hd : (buf.drop n).length < buf.length :=
      List.length_drop ▸ Nat.sub_lt (List.length_pos_iff.mpr hb) (Nat.pos_of_ne_zero hn)
    obtain ⟨c', r, u2, w2, h2, hran2, hend2⟩ :=
      ih (Nat.le_of_lt_succ (Nat.lt_of_lt_of_le (Nat.add_lt_add_of_le_of_lt hs hd) h))
    refine ⟨c', r, u ++ u2, _, h2, hran.trans hran2, ?_⟩
    have := hend2.prepend u (buf.take n) hu
    rwa [List.take_append_drop] at this
  | case5 fuel c buf hb c1 hw ih =>  -- `Interrupted`: retry
    obtain ⟨u, w, hran, rfl, r, rfl, he, hr⟩ := CW.write_spec _ _ hw
    rcases hr with rfl | ⟨k, rfl⟩
    · have hs : c1.sink.script.length < c.sink.script.length := hran.script ▸ Nat.lt_succ_self _
      obtain ⟨c', r, u2, w2, h2, hran2, hend2⟩ :=
        ih (Nat.le_of_lt_succ (Nat.lt_of_lt_of_le (Nat.add_lt_add_right hs _) h))
      exact ⟨c', r, _, _, h2, hran.trans hran2, hend2.prepend _ [] Benign.single_intr⟩
    · cases he
  | case6 fuel c buf hb c1 e hne hw =>  -- any other error
    obtain ⟨u, w, hran, rfl, r, rfl, rfl, hr⟩ := CW.write_spec _ _ hw
    rcases hr with rfl | ⟨k, rfl⟩
    · exact absurd rfl hne
    · exact ⟨c1, _, _, _, rfl, hran, Faulted.single (.inr ⟨k, rfl⟩)⟩

theorem writeAll_fuel (c : CW) (buf : List UInt8) :
    writeAllWith CW.write (fuelFor c.sink buf) c buf = some (c.writeAll buf) := by
  obtain ⟨c', r, _, _, h, _⟩ := waw_spec (fuelFor c.sink buf) c buf (by simp [fuelFor])
  simp [CW.writeAll, h]

/-! ### the sink under a `CountingWriter` behaves like the bare sink -/

theorem CW.write_sink {c c' : CW} {buf : List UInt8} {r : Except IoErr Nat}
    (h : c.write buf = (c', r)) : c.sink.write buf = (c'.sink, r) := by
  unfold CW.write at h
  split at h <;> cases h <;> assumption

theorem waw_proj (fuel : Nat) (c : CW) (buf : List UInt8) :
    (writeAllWith CW.write fuel c buf).map (fun p => (p.1.sink, p.2)) =
      writeAllWith Sink.write fuel c.sink buf := by
  fun_induction writeAllWith CW.write fuel c buf with
  -- empty buffer / no fuel / `Ok(0)` / `Ok(n)` / `Interrupted` / other error
  | case1 t c => rw [waw_nil]; rfl
  | case2 c b bs => rfl
  | case3 fuel c buf hb c1 hw => rw [waw_zero _ hb (CW.write_sink hw)]; rfl
  | case4 fuel c buf hb c1 n hn hw ih => rw [waw_succ _ hb hn (CW.write_sink hw)]; exact ih
  | case5 fuel c buf hb c1 hw ih => rw [waw_intr _ hb (CW.write_sink hw)]; exact ih
  | case6 fuel c buf hb c1 e hne hw => rw [waw_err _ hb hne (CW.write_sink hw)]; rfl

theorem Sink.writeAll_eq (c : CW) (buf : List UInt8) :
    c.sink.writeAll buf = ((c.writeAll buf).1.sink, (c.writeAll buf).2) := by
  have h1 := writeAll_fuel c buf
  have h2 := waw_proj (fuelFor c.sink buf) c buf
  simp only [h1, Option.map_some] at h2
  unfold Sink.writeAll
  rw [← h2]

theorem Sink.writeAll_fuel (s : Sink) (buf : List UInt8) :
    writeAllWith Sink.write (fuelFor s buf) s buf = some (s.writeAll buf) := by
  have h1 := Fst.SinkProofs.writeAll_fuel (⟨s, 0, {}⟩ : CW) buf
  have h2 := waw_proj (fuelFor s buf) (⟨s, 0, {}⟩ : CW) buf
  simp only [h1, Option.map_some] at h2
  rw [← h2, Fst.SinkProofs.Sink.writeAll_eq ⟨s, 0, {}⟩ buf]

theorem CW.writeAll_ran (c : CW) (buf : List UInt8) {p : CW × Except IoErr Unit}
    (h : c.writeAll buf = p) : ∃ used written, Ran c p.1 used written ∧ Ended buf used written p.2 := by
  obtain ⟨c1, r1, u, w, hw, hran, hend⟩ := waw_spec (fuelFor c.sink buf) c buf (by simp [fuelFor])
  rw [CW.writeAll, hw] at h
  cases h
  exact ⟨u, w, hran, hend⟩

theorem CW.writeChunks_ran (c : CW) (chunks : List (List UInt8)) {p : CW × Except IoErr Unit}
    (h : c.writeChunks chunks = p) :
    ∃ used written, Ran c p.1 used written ∧ Ended chunks.flatten used written p.2 := by
  fun_induction CW.writeChunks c chunks with
  | case1 c => cases h; exact ⟨[], [], Ran.refl _, Benign.nil, rfl⟩  -- no chunk left
  | case2 c b bs c1 h1 ih =>  -- `write_all` succeeded
    obtain ⟨u1, w1, hran1, hben1, rfl⟩ := CW.writeAll_ran _ _ h1
    obtain ⟨u2, w2, hran2, hend2⟩ := ih h
    exact ⟨u1 ++ u2, w1 ++ w2, hran1.trans hran2, by simpa using hend2.prepend u1 w1 hben1⟩
  | case3 c b bs c1 e h1 =>  -- `write_all` failed
    cases h
    obtain ⟨u1, w1, hran1, hend1⟩ := CW.writeAll_ran _ _ h1
    exact ⟨u1, w1, hran1, hend1⟩

/-- the bare sink's `write_all`, seen from the counting writer above it -/
theorem Sink.writeAll_ran {c : CW} {buf : List UInt8} {s : Sink} {r : Except IoErr Unit}
    (h : c.sink.writeAll buf = (s, r)) :
    ∃ c' used written, c'.sink = s ∧ Ran c c' used written ∧ Ended buf used written r := by
  rw [Sink.writeAll_eq] at h
  cases h
  exact ⟨_, _, _, rfl, (CW.writeAll_ran _ _ rfl).choose_spec.choose_spec⟩

theorem Ran.benign {c c' : CW} {buf : List UInt8} {used : List Resp} {written : List UInt8}
    {r : Except IoErr Unit} (hran : Ran c c' used written) (hend : Ended buf used written r)
    (hb : Benign c.sink.script) : r = .ok () ∧ Ran c c' used buf ∧ Benign c'.sink.script := by
  have hs := hran.script
  rw [hs] at hb
  match r, hend with
  | .ok (), ⟨_, hw⟩ => exact ⟨rfl, hw ▸ hran, hb.of_append_right⟩
  | .error e, hf => exact absurd hb.of_append_left hf.not_benign

/-! ### a builder call: its result and the responses it consumed -/

/-- the responses `used` that an operation served, given its result: all benign, unless the
result is `Err(Io)`, and then the last one is the failing one and is what is reported -/
def Served (used : List Resp) : Except CallErr Unit → Prop
  | .ok _ => Benign used
  | .error (.fst _) => Benign used
  | .error (.io e) => Faulted used e

def Consumed (before after : List Resp) (r : Except CallErr Unit) : Prop :=
  ∃ used, before = used ++ after ∧ Served used r

theorem Served.prepend {u1 u2 : List Resp} {r : Except CallErr Unit} (h1 : Benign u1)
    (h2 : Served u2 r) : Served (u1 ++ u2) r := by
  match r, h2 with
  | .ok _, h2 => exact h1.append h2
  | .error (.fst _), h2 => exact h1.append h2
  | .error (.io e), h2 => exact Faulted.prepend h1 h2

theorem Consumed.nil (s : List Resp) {r : Except CallErr Unit} (h : ∀ e, r ≠ .error (.io e)) :
    Consumed s s r := by
  refine ⟨[], rfl, ?_⟩
  match r, h with
  | .ok _, _ => exact Benign.nil
  | .error (.fst _), _ => exact Benign.nil
  | .error (.io e), h => exact absurd rfl (h e)

theorem Consumed.trans {a b c : List Resp} {r : Except CallErr Unit}
    (h1 : Consumed a b (.ok ())) (h2 : Consumed b c r) : Consumed a c r := by
  obtain ⟨u1, hs1, hk1⟩ := h1
  obtain ⟨u2, hs2, hk2⟩ := h2
  exact ⟨u1 ++ u2, by rw [hs1, hs2, List.append_assoc], hk2.prepend hk1⟩

theorem Consumed.benign {before after used : List Resp} {r : Except CallErr Unit}
    (h : Consumed before after r) (hu : before = used ++ after) (hr : ∀ e, r ≠ .error (.io e)) :
    Benign used := by
  obtain ⟨used', hs, hk⟩ := h
  cases List.append_cancel_right (hu.symm.trans hs)
  match r, hk, hr with
  | .ok _, hk, _ => exact hk
  | .error (.fst _), hk, _ => exact hk
  | .error (.io e), _, hr => exact absurd rfl (hr e)

theorem Consumed.fault {before after used : List Resp} {r : Except CallErr Unit}
    (h : Consumed before after r) (hu : before = used ++ after) {bad : Resp} (hmem : bad ∈ used)
    (hbad : Bad bad) : ∃ e, r = .error (.io e) :=
  Classical.byContradiction fun hn =>
    (h.benign hu fun e he => hn ⟨e, he⟩).not_bad hmem hbad

theorem Consumed.first_fault {before after : List Resp} {e : IoErr}
    (h : Consumed before after (.error (.io e))) :
    ∃ good bad, before = good ++ bad :: after ∧ Benign good ∧ Bad bad ∧ e = errOf bad := by
  obtain ⟨used, hs, hf⟩ := h
  exact hf.first hs

theorem step_ok (x : IOB) (b' : BState) :
    x.step (.ok b') = (⟨b', (x.cw.writeChunks (newChunks x.b b')).1⟩,
      (x.cw.writeChunks (newChunks x.b b')).2.mapError .io) := by
  simp only [IOB.step]
  cases x.cw.writeChunks (newChunks x.b b') with
  | mk cw r => cases r <;> rfl

theorem step_ran (x : IOB) (r : Except BErr BState) :
    ∃ used written, Ran x.cw (x.step r).1.cw used written ∧ Served used (x.step r).2 := by
  fun_cases IOB.step x r with
  -- rejected / written / write failed
  | case1 e => exact ⟨[], [], Ran.refl _, Benign.nil⟩
  | case2 b' cw h => obtain ⟨u, w, hran, hend⟩ := CW.writeChunks_ran _ _ h; exact ⟨u, w, hran, hend.1⟩
  | case3 b' cw e h => obtain ⟨u, w, hran, hend⟩ := CW.writeChunks_ran _ _ h; exact ⟨u, w, hran, hend⟩

/-- the result type of a call has no panic value -/
theorem outcomes (r : Except CallErr Unit) :
    r = .ok () ∨ (∃ e, r = .error (.fst e)) ∨ (∃ e, r = .error (.io e)) := by
  match r with
  | .ok () => exact .inl rfl
  | .error (.fst e) => exact .inr (.inl ⟨e, rfl⟩)
  | .error (.io e) => exact .inr (.inr ⟨e, rfl⟩)

theorem step_consumed (x : IOB) (r : Except BErr BState) :
    Consumed x.cw.sink.script (x.step r).1.cw.sink.script (x.step r).2 :=
  let ⟨u, _, h, hs⟩ := step_ran x r; ⟨u, h.script, hs⟩

theorem writeAll_benign (hchunk : ChunkLaw) (c : CW) (buf : List UInt8)
    (hb : Benign c.sink.script) :
    ∃ c', c.writeAll buf = (c', .ok ()) ∧ c'.sink.held = c.sink.held ++ buf.toArray ∧
      c'.cnt = c.cnt + buf.length ∧ c'.summer = c.summer.update buf ∧
      Benign c'.sink.script ∧ c'.sink.flushFails = c.sink.flushFails := by
  obtain ⟨used, written, hran, hend⟩ := CW.writeAll_ran c buf rfl
  obtain ⟨hr, hran, hb'⟩ := hran.benign hend hb
  exact ⟨_, by rw [← hr], hran.held, hran.cnt, hran.summer hchunk, hb', hran.flush⟩

theorem writeChunks_benign (c : CW) (chunks : List (List UInt8)) (hb : Benign c.sink.script) :
    ∃ c' used, c.writeChunks chunks = (c', .ok ()) ∧ Ran c c' used chunks.flatten ∧
      Benign c'.sink.script := by
  obtain ⟨used, written, hran, hend⟩ := CW.writeChunks_ran c chunks rfl
  obtain ⟨hr, hran, hb'⟩ := hran.benign hend hb
  exact ⟨_, used, by rw [← hr], hran, hb'⟩

/-! ### C07: the count is what the sink accepted -/

theorem Ran.count {c c' : CW} {used : List Resp} {written : List UInt8}
    (h : Ran c c' used written) :
    c'.cnt - c.cnt = c'.sink.held.size - c.sink.held.size ∧ c.cnt ≤ c'.cnt ∧
      c.sink.held.size ≤ c'.sink.held.size := by
  have h2 := congrArg Array.size h.held
  simp at h2; simp [h.cnt, h2]

theorem C07_count_write (c : CW) (buf : List UInt8) :
    (c.write buf).1.cnt - c.cnt = (c.write buf).1.sink.held.size - c.sink.held.size := by
  obtain ⟨_, _, h, _⟩ := CW.write_spec c buf rfl; exact h.count.1

theorem C07_count_writeAll (c : CW) (buf : List UInt8) :
    (c.writeAll buf).1.cnt - c.cnt = (c.writeAll buf).1.sink.held.size - c.sink.held.size := by
  obtain ⟨_, _, h, _⟩ := CW.writeAll_ran c buf rfl; exact h.count.1

theorem C07_count (c : CW) (chunks : List (List UInt8)) :
    (c.writeChunks chunks).1.cnt - c.cnt =
      (c.writeChunks chunks).1.sink.held.size - c.sink.held.size := by
  obtain ⟨_, _, h, _⟩ := CW.writeChunks_ran c chunks rfl; exact h.count.1

/-- the counter never runs ahead of or behind the sink: invariant form -/
def CountInv (prefill : Nat) (c : CW) : Prop := c.cnt + prefill = c.sink.held.size

theorem CountInv.ran {p : Nat} {c c' : CW} {used : List Resp} {written : List UInt8}
    (hi : CountInv p c) (h : Ran c c' used written) : CountInv p c' := by
  have := h.count; unfold CountInv at *; omega

theorem CountInv.new (s : Sink) : CountInv s.held.size (CW.new s) := by simp [CountInv, CW.new]

/-! ### C07_bytes: what a benign sink holds is the in-memory build -/

/-- the emitted-node list only grows (at the front) -/
def OutExt (s s' : BState) : Prop := ∃ added, s'.out = added ++ s.out

theorem OutExt.refl (s : BState) : OutExt s s := ⟨[], rfl⟩
theorem OutExt.of_eq {s s' : BState} (h : s'.out = s.out) : OutExt s s' := ⟨[], by simp [h]⟩
theorem OutExt.trans {a b c : BState} (h1 : OutExt a b) (h2 : OutExt b c) : OutExt a c := by
  obtain ⟨x, hx⟩ := h1; obtain ⟨y, hy⟩ := h2
  exact ⟨y ++ x, by rw [hy, hx, List.append_assoc]⟩

theorem outExt_einv (s0 : BState) : MinP.EInv (OutExt s0) where
  frame := fun h s' ho _ _ _ => h.trans (OutExt.of_eq ho)
  compile := fun hc h => by
    rcases compile_cases hc with ⟨_, rfl, _⟩ | ⟨_, _, _, rfl⟩ | ⟨_, _, _, _, _, _, _, _, rfl⟩
    · exact h
    · exact h.trans (OutExt.of_eq rfl)
    · exact h.trans ⟨[_], rfl⟩

/-- the node buffers of a pure state, oldest first -/
def nodeChunks (b : BState) : List (List UInt8) := b.out.reverse.flatMap (·.chunks)

theorem nodeChunks_ext {old new : BState} (h : OutExt old new) :
    nodeChunks new = nodeChunks old ++ newChunks old new := by
  obtain ⟨added, ha⟩ := h
  simp [nodeChunks, newChunks, ha]

/-- everything written before the footer -/
def bodySoFar (ty : Nat) (b : BState) : List UInt8 := (headerChunks ty ++ nodeChunks b).flatten

theorem bodySoFar_ext (ty : Nat) {old new : BState} (h : OutExt old new) :
    bodySoFar ty new = bodySoFar ty old ++ (newChunks old new).flatten := by
  simp [bodySoFar, nodeChunks_ext h]

theorem body_eq (ty : Nat) {b b' : BState} (root : Nat) (h : OutExt b b') :
    (b'.bodyChunks ty root).flatten =
      bodySoFar ty b ++ (newChunks b b' ++ footerChunks b'.len root).flatten := by
  have : b'.bodyChunks ty root = headerChunks ty ++ nodeChunks b' ++ footerChunks b'.len root := rfl
  rw [this, nodeChunks_ext h]
  simp [bodySoFar]

/-- the state of a builder over a benign sink prefilled with `p` -/
structure Inv (p : List UInt8) (ty : Nat) (x : IOB) : Prop where
  benign : Benign x.cw.sink.script
  flush : x.cw.sink.flushFails = none
  held : x.cw.sink.held = (p ++ bodySoFar ty x.b).toArray
  summer : x.cw.summer = ({} : Summer).update (bodySoFar ty x.b)
  cnt : x.cw.cnt = (bodySoFar ty x.b).length

theorem new_benign (hchunk : ChunkLaw) (sink : Sink) (p : List UInt8) (ty rows cols : Nat)
    (hb : Benign sink.script) (hf : sink.flushFails = none) (hp : sink.held = p.toArray) :
    ∃ cw, IOB.new sink ty rows cols = (cw, .ok ⟨BState.new rows cols, cw⟩) ∧
      Inv p ty ⟨BState.new rows cols, cw⟩ := by
  obtain ⟨cw, _, h1, hr, h5⟩ := writeChunks_benign (CW.new sink) (headerChunks ty) hb
  refine ⟨cw, by simp [IOB.new, h1], h5, by rw [hr.flush]; exact hf, ?_, ?_, ?_⟩
  · rw [hr.held]; simp [CW.new, hp, bodySoFar, nodeChunks, BState.new]
  · rw [hr.summer hchunk]; simp [CW.new, bodySoFar, nodeChunks, BState.new]
  · rw [hr.cnt]; simp [CW.new, bodySoFar, nodeChunks, BState.new]

theorem step_benign (hchunk : ChunkLaw) {p : List UInt8} {ty : Nat} {x : IOB} (hi : Inv p ty x)
    (b' : BState) (hext : OutExt x.b b') :
    ∃ cw, x.step (.ok b') = (⟨b', cw⟩, .ok ()) ∧ Inv p ty ⟨b', cw⟩ := by
  obtain ⟨cw, _, h1, hr, h5⟩ := writeChunks_benign x.cw (newChunks x.b b') hi.benign
  refine ⟨cw, by simp [IOB.step, h1], h5, by rw [hr.flush]; exact hi.flush, ?_, ?_, ?_⟩
  · rw [hr.held, hi.held, bodySoFar_ext ty hext]; simp
  · rw [hr.summer hchunk, hi.summer, hchunk, bodySoFar_ext ty hext]
  · rw [hr.cnt, hi.cnt, bodySoFar_ext ty hext]; simp

/-- the two mutating calls of the builder API -/
inductive Call
  | insert (k : Key) (v : Nat)
  | add (k : Key)
deriving Repr

def BState.call (s : BState) : Call → Except BErr BState
  | .insert k v => s.insert k v
  | .add k => s.add k

def IOB.call (x : IOB) : Call → IOB × Except CallErr Unit
  | .insert k v => x.insert k v
  | .add k => x.add k

theorem IOB.call_eq (x : IOB) (c : Call) : IOB.call x c = x.step (BState.call x.b c) := by
  cases c <;> rfl

theorem call_ext (s : BState) (c : Call) (s' : BState) (h : BState.call s c = .ok s') :
    OutExt s s' := by
  cases c with
  | insert k v => exact (outExt_einv s).insert h (OutExt.refl s)
  | add k => exact (outExt_einv s).add h (OutExt.refl s)

/-- a sequence of calls on the pure state machine, stopping at the first error -/
def BState.run (s : BState) : List Call → Except BErr BState
  | [] => .ok s
  | c :: cs => match BState.call s c with
    | .error e => .error e
    | .ok s' => BState.run s' cs

/-- a sequence of calls on the writer-backed builder, all of which must succeed -/
def IOB.run (x : IOB) : List Call → Option IOB
  | [] => some x
  | c :: cs => match IOB.call x c with
    | (x', .ok ()) => IOB.run x' cs
    | (_, .error _) => none

/-- any sequence of calls, continuing after errors -/
def IOB.runAny (x : IOB) : List Call → IOB
  | [] => x
  | c :: cs => IOB.runAny (IOB.call x c).1 cs

/-- over a benign sink the writer-backed builder refines the pure one, both ways -/
theorem run_benign (hchunk : ChunkLaw) {p : List UInt8} {ty : Nat} (calls : List Call) :
    ∀ {x : IOB}, Inv p ty x →
    match BState.run x.b calls with
    | .ok b => ∃ x', IOB.run x calls = some x' ∧ x'.b = b ∧ Inv p ty x'
    | .error _ => IOB.run x calls = none := by
  induction calls with
  | nil => intro x hi; exact ⟨x, rfl, rfl, hi⟩
  | cons c cs ih =>
    intro x hi
    simp only [BState.run, IOB.run, IOB.call_eq]
    cases hs' : BState.call x.b c with
    | error e => rfl
    | ok s' =>
      obtain ⟨cw, h1, h2⟩ := step_benign hchunk hi s' (call_ext _ _ _ hs')
      rw [h1]
      exact ih h2

/-- everything `into_inner` writes: the pending nodes, the footer, the checksum -/
def tailBytes (x : IOB) (b' : BState) (root : Nat) : List UInt8 :=
  let w := (newChunks x.b b' ++ footerChunks b'.len root).flatten
  w ++ u32le (x.cw.summer.update w).masked.toNat

/-- complete description of `into_inner` over an arbitrary sink: the writer `c'` it leaves behind -/
theorem intoInner_spec (x : IOB) :
    ∃ c' used written, x.intoInner.1 = c'.sink ∧ Ran x.cw c' used written ∧
      match x.intoInner.2 with
      | .ok () => Benign used ∧ x.cw.sink.flushFails = none ∧
          ∃ b' root, x.b.finish = .ok (b', root) ∧ (ChunkLaw → written = tailBytes x b' root)
      | .error (.fst e) => used = [] ∧ x.b.finish = .error e
      | .error (.io e) => (∃ b' root, x.b.finish = .ok (b', root)) ∧
          (Faulted used e ∨
           (Benign used ∧ ∃ k, x.cw.sink.flushFails = some k ∧ e = .other (k + 1))) := by
  fun_cases IOB.intoInner x with
  | case1 e hfin => exact ⟨x.cw, [], [], rfl, Ran.refl _, rfl, hfin⟩  -- `finish` failed
  | case2 b' root hfin cw e h1 =>  -- writing the nodes and the footer failed
    obtain ⟨u1, w1, hran1, hend1⟩ := CW.writeChunks_ran _ _ h1
    exact ⟨cw, u1, w1, rfl, hran1, ⟨b', root, hfin⟩, .inl hend1⟩
  | case3 b' root hfin cw h1 s e h2 =>  -- writing the checksum failed
    obtain ⟨u1, w1, hran1, hben1, _⟩ := CW.writeChunks_ran _ _ h1
    obtain ⟨c2, u2, w2, rfl, hran2, hend2⟩ := Sink.writeAll_ran h2
    exact ⟨c2, _, _, rfl, hran1.trans hran2, ⟨b', root, hfin⟩, .inl (Faulted.prepend hben1 hend2)⟩
  | case4 b' root hfin cw h1 s h2 k hff =>  -- `flush` failed
    obtain ⟨u1, w1, hran1, hben1, _⟩ := CW.writeChunks_ran _ _ h1
    obtain ⟨c2, u2, w2, rfl, hran2, hben2, _⟩ := Sink.writeAll_ran h2
    have hran := hran1.trans hran2
    exact ⟨c2, _, _, rfl, hran, ⟨b', root, hfin⟩,
      .inr ⟨hben1.append hben2, k, by rw [← hran.flush, hff], rfl⟩⟩
  | case5 b' root hfin cw h1 s h2 hff =>  -- `Ok`
    obtain ⟨u1, w1, hran1, hben1, hw1⟩ := CW.writeChunks_ran _ _ h1
    obtain ⟨c2, u2, w2, rfl, hran2, hben2, hw2⟩ := Sink.writeAll_ran h2
    have hran := hran1.trans hran2
    refine ⟨c2, _, _, rfl, hran, hben1.append hben2, by rw [← hran.flush, hff], b', root, hfin,
      fun hchunk => ?_⟩
    rw [hw2, hran1.summer hchunk, hw1]
    rfl

theorem fileBytes_isOk (ty : Nat) (b b' : BState) (root : Nat) (h : b.finish = .ok (b', root)) :
    ∃ bytes, b.fileBytes ty = .ok bytes := by
  simp [BState.fileBytes, h]

theorem masked_eq (body : List UInt8) :
    (({} : Summer).update body).masked = maskedSum (crc32cSlice16 0 body) := rfl

theorem intoInner_benign (hchunk : ChunkLaw) {p : List UInt8} {ty : Nat} {x : IOB}
    (hi : Inv p ty x) (bytes : List UInt8) (hf : x.b.fileBytes ty = .ok bytes) :
    ∃ s, x.intoInner = (s, .ok ()) ∧ s.held = (p ++ bytes).toArray := by
  obtain ⟨c', used, written, hc, hran, hm⟩ := intoInner_spec x
  have hbu : Benign used := (hran.script ▸ hi.benign).of_append_left
  rcases outcomes x.intoInner.2 with hr | ⟨e, hr⟩ | ⟨e, hr⟩
  · rw [hr] at hm
    obtain ⟨_, _, b', root, hfin, hw⟩ := hm
    refine ⟨c'.sink, Prod.ext hc hr, ?_⟩
    simp only [BState.fileBytes, hfin, Except.ok.injEq] at hf
    have hext := (outExt_einv x.b).finish hfin (OutExt.refl _)
    rw [hran.held, hw hchunk, tailBytes, hi.held, hi.summer, hchunk, masked_eq, ← hf,
      body_eq ty root hext]
    simp only [List.append_toArray, List.append_assoc]
  · rw [hr] at hm
    simp [BState.fileBytes, hm.2] at hf
  · rw [hr] at hm
    rcases hm.2 with hf | ⟨_, k, hk, _⟩
    · exact absurd hbu hf.not_benign
    · rw [hi.flush] at hk; cases hk

theorem C07_bytes (hchunk : ChunkLaw) (p : List UInt8) (script : List Resp)
    (hb : Benign script) (ty rows cols : Nat) (calls : List Call) (b : BState)
    (bytes : List UInt8) (hrun : BState.run (BState.new rows cols) calls = .ok b)
    (hfile : b.fileBytes ty = .ok bytes) :
    ∃ cw x0 x s, IOB.new (Sink.new p script) ty rows cols = (cw, .ok x0) ∧
      IOB.run x0 calls = some x ∧ x.b = b ∧ x.intoInner = (s, .ok ()) ∧
      s.held = (p ++ bytes).toArray := by
  obtain ⟨cw, h1, h2⟩ := new_benign hchunk (Sink.new p script) p ty rows cols hb rfl rfl
  have h := run_benign hchunk calls h2
  rw [hrun] at h
  obtain ⟨x, h3, h4, h5⟩ := h
  subst h4
  obtain ⟨s, h6, h7⟩ := intoInner_benign hchunk h5 bytes hfile
  exact ⟨cw, _, x, s, h1, h3, rfl, h6, h7⟩

/-- converse reading of `C07_bytes`: whenever the writer-backed run over a benign sink
went through, the sink holds the prefill followed by the in-memory build of the same
calls. -/
theorem C07_bytes_of_io (hchunk : ChunkLaw) (p : List UInt8) (script : List Resp)
    (hb : Benign script) (ty rows cols : Nat) (calls : List Call) (cw : CW) (x0 x : IOB)
    (s : Sink) (hnew : IOB.new (Sink.new p script) ty rows cols = (cw, .ok x0))
    (hrun : IOB.run x0 calls = some x) (hfin : x.intoInner = (s, .ok ())) :
    ∃ bytes, BState.run (BState.new rows cols) calls = .ok x.b ∧
      x.b.fileBytes ty = .ok bytes ∧ s.held = (p ++ bytes).toArray := by
  obtain ⟨cw', h1, h2⟩ := new_benign hchunk (Sink.new p script) p ty rows cols hb rfl rfl
  rw [h1] at hnew
  cases hnew
  have h := run_benign hchunk calls h2
  simp only at h
  cases hpure : BState.run (BState.new rows cols) calls with
  | error e => rw [hpure, hrun] at h; cases h
  | ok b =>
    rw [hpure, hrun] at h
    obtain ⟨x', hx', hb', hi⟩ := h
    cases hx'
    subst hb'
    cases hf : x.b.finish with
    | error e => simp [IOB.intoInner, hf] at hfin
    | ok br =>
      obtain ⟨bytes, hfile⟩ := fileBytes_isOk ty x.b br.1 br.2 hf
      obtain ⟨s', g1, g2⟩ := intoInner_benign hchunk hi bytes hfile
      rw [hfin] at g1
      cases g1
      exact ⟨bytes, rfl, hfile, g2⟩

/-! ### C11: `Ok` from `into_inner` implies a clean script and a successful flush -/

theorem C11_finish_ok_only_if (x : IOB) (s : Sink) (h : x.intoInner = (s, .ok ())) :
    ∃ used b' root, x.cw.sink.script = used ++ s.script ∧ Benign used ∧
      s.flushFails = none ∧ x.b.finish = .ok (b', root) ∧
      (ChunkLaw → s.held = x.cw.sink.held ++ (tailBytes x b' root).toArray) := by
  obtain ⟨c', used, written, hc, hran, hm⟩ := intoInner_spec x
  rw [h] at hc hm
  cases hc
  obtain ⟨hben, hnone, b', root, hfin, hw⟩ := hm
  exact ⟨used, b', root, hran.script, hben, by rw [hran.flush]; exact hnone, hfin,
    fun hc => by rw [hran.held, hw hc]⟩

/-! ### non-vacuity -/

def demoScript : List Resp := [.take 1, .interrupted, .take 3, .interrupted, .take 2]

theorem demoScript_benign : Benign demoScript := by
  intro r hr
  simp [demoScript] at hr
  rcases hr with rfl | rfl | rfl | rfl | rfl
  · exact .inl ⟨1, rfl, by omega⟩
  · exact .inr rfl
  · exact .inl ⟨3, rfl, by omega⟩
  · exact .inr rfl
  · exact .inl ⟨2, rfl, by omega⟩

def demoCalls : List Call := [.insert [97] 5, .insert [97, 98] 2, .add [99]]

def demoFinishes : Bool :=
  match BState.run (BState.new 4 2) demoCalls with
  | .ok b => (match b.finish with | .ok _ => true | .error _ => false)
  | .error _ => false

/-- the hypotheses of `C07_bytes` are satisfiable (three keys, a five-entry benign script) -/
example : Benign demoScript ∧ ∃ b bytes, BState.run (BState.new 4 2) demoCalls = .ok b ∧
    b.fileBytes 0 = .ok bytes := by
  refine ⟨demoScript_benign, ?_⟩
  have h : demoFinishes = true := by decide
  unfold demoFinishes at h
  split at h
  · rename_i b hb
    split at h
    · rename_i r hr
      obtain ⟨bytes, hbytes⟩ := fileBytes_isOk 0 b r.1 r.2 hr
      exact ⟨b, bytes, hb, hbytes⟩
    · cases h
  · cases h

example : ((CW.new (Sink.new [1, 2] demoScript)).writeChunks [[10, 11, 12], [13, 14]]).1.sink.held
    = #[1, 2, 10, 11, 12, 13, 14] := by decide +kernel
example : ((CW.new (Sink.new [1, 2] demoScript)).writeChunks [[10, 11, 12], [13, 14]]).1.sink.calls
    = 5 := by decide
example : ((CW.new (Sink.new [] [.take 1, .take 0])).writeChunks [[10, 11]]).2
    = .error .writeZero := by rfl
example : ((CW.new (Sink.new [] [.take 1, .fail 4])).writeChunks [[10, 11]]).1.cnt = 1 := by decide

end SinkProofs
end Fst
