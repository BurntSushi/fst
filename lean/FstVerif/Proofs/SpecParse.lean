import FstVerif.Proofs.Codec
import FstVerif.Spec.Format
/-
The independent format parser `Spec.parseNode` (Spec/Format.lean) inverts the node encoders:
`parse_otn` / `parse_ot` / `parse_any` are `parseNode` unfolded once per branch (one hypothesis per
`let` of its body), fed from the layouts `OneTail` / `OtLay` / `AnyLay` of Proofs/Codec*.lean;
`Written.parse` for reader version `v` and writer version `w`, `spec_parseNode_seg` for `compileNode`.
-/
namespace Fst

theorem spec_pinned_version : Gen.VERSION = Spec.VERSION_MAX := by decide

/-- the node the format description must read back -/
def specOf (n : BNode) (first last : Nat) : Spec.SNode :=
  ⟨n.fin, n.fout, n.trans.map fun t => (t.inp, t.out, t.addr), first, last⟩

namespace SpecP

theorem arr_getD_some {l : List UInt8} {i : Nat} {b : UInt8} (h : l[i]? = some b) :
    l.toArray.getD i 0 = b := by
  obtain ⟨hi, rfl⟩ := List.getElem?_eq_some_iff.mp h
  simp [Array.getD, hi]

theorem le_foldr_seg {l : List UInt8} {off : Nat} {xs : List UInt8} (h : Seg l off xs) :
    (List.range xs.length).foldr (fun k acc => (l.toArray.getD (off + k) 0).toNat + 256 * acc) 0
      = unpack xs := by
  induction xs generalizing off with
  | nil => rfl
  | cons x xs ih =>
    obtain ⟨h1, h2⟩ := seg_cons h
    rw [List.length_cons, List.range_succ_eq_map, List.foldr_cons, List.foldr_map]
    simp only [Nat.add_zero, arr_getD_some h1, unpack]
    have := ih h2
    simp only [Nat.add_assoc, Nat.add_comm 1] at this ⊢
    rw [this]

theorem le_seg {l : List UInt8} {off k x : Nat} (h : Seg l off (packIn x k)) (hx : x < 256 ^ k) :
    Spec.le l.toArray off k = some x := by
  have hl := seg_len h
  rw [packIn_length] at hl
  have := le_foldr_seg h
  rw [packIn_length, unpack_packIn x k hx] at this
  simp only [Spec.le, List.size_toArray, hl, if_true, this]

theorem le_zero (a : Array UInt8) (i : Nat) (h : i ≤ a.size) : Spec.le a i 0 = some 0 := by
  simp [Spec.le, h]

theorem commonByte_eq (idx : Nat) (h : idx < 64) : Spec.commonByte idx = commonInput idx := by
  unfold Spec.commonByte commonInput
  split
  · rfl
  · have : idx - 1 < Spec.commonInv.length :=
      Nat.lt_of_le_of_lt (Nat.sub_le _ _) (Nat.lt_trans h (by decide +kernel))
    rw [commonInputsInvA_getD, pinned_common_inv, List.getD, List.getElem?_eq_getElem this]
    rfl

theorem parse_otn {v : Nat} {a : Array UInt8} {addr s il : Nat} {b : UInt8}
    (h0 : il < addr) (hsz : addr < a.size) (hs : (a.getD addr 0).toNat = s) (h192 : 192 ≤ s)
    (hc : (Spec.commonByte (s % 64) = some b ∧ il = 0) ∨
          (Spec.commonByte (s % 64) = none ∧ il = 1 ∧ a.getD (addr - 1) 0 = b)) :
    Spec.parseNode v a addr = some ⟨false, 0, [(b, 0, addr - il - 1)], addr - il, addr⟩ := by
  unfold Spec.parseNode
  -- `↓reduceIte` decides an `if` before its branches; `if_false` fires only after both are simplified
  simp only [Nat.ne_zero_of_lt h0, ↓reduceIte, hs, ge_iff_le, h192, Nat.not_le.mpr hsz]
  rcases hc with ⟨hc, rfl⟩ | ⟨hc, rfl, rfl⟩
  · simp only [hc, Nat.not_lt.mpr h0, if_false, Nat.sub_zero]
  · simp only [hc, Nat.not_lt.mpr h0, if_false, Nat.sub_sub]

theorem parse_ot {v : Nat} {a : Array UInt8} {addr s p sizes delta out : Nat} {inp : UInt8}
    (h0 : addr ≠ 0) (hsz : addr < a.size) (hs : (a.getD addr 0).toNat = s) (h192 : s < 192) (h128 : 128 ≤ s)
    (hc : (Spec.commonByte (s % 64) = some inp ∧ p = addr) ∨
          (Spec.commonByte (s % 64) = none ∧ inp = a.getD (addr - 1) 0 ∧ p = addr - 1))
    (hp : 1 ≤ p) (hsizes : (a.getD (p - 1) 0).toNat = sizes)
    (hfit : 1 + sizes / 16 + sizes % 16 ≤ p)
    (hd : Spec.le a (p - 1 - sizes / 16 - sizes % 16 + sizes % 16) (sizes / 16) = some delta)
    (ho : Spec.le a (p - 1 - sizes / 16 - sizes % 16) (sizes % 16) = some out) :
    Spec.parseNode v a addr = some ⟨false, 0,
      [(inp, out, Spec.target (p - 1 - sizes / 16 - sizes % 16) delta)], p - 1 - sizes / 16 - sizes % 16, addr⟩ := by
  unfold Spec.parseNode
  simp only [h0, ↓reduceIte, hs, ge_iff_le, Nat.not_le.mpr h192, h128, Nat.not_le.mpr hsz]
  rcases hc with ⟨hc, rfl⟩ | ⟨hc, rfl, rfl⟩
  · simp only [hc, Nat.not_lt.mpr hp, ↓reduceIte, hsizes, Nat.not_lt.mpr hfit, hd, ho]
  · simp only [hc, Nat.not_lt.mpr hp, ↓reduceIte, hsizes, Nat.not_lt.mpr hfit, hd, ho]

/-- transition `j` (ascending) as read by the format description: position `K - 1 - j` of the
reversed output, delta and input arrays -/
def specTr (a : Array UInt8) (first K tsize osize finO : Nat) (j : Nat) : Option (UInt8 × Nat × Nat) :=
  match Spec.le a (first + finO + K * osize + (K - 1 - j) * tsize) tsize with
  | none => none
  | some delta =>
    some (a.getD (first + finO + K * osize + K * tsize + (K - 1 - j)) 0,
      if osize = 0 then 0 else (Spec.le a (first + finO + (K - 1 - j) * osize) osize).getD 0,
      Spec.target first delta)

theorem parse_any {v : Nat} {a : Array UInt8} {addr s K p sizes finO body : Nat}
    {ts : List (UInt8 × Nat × Nat)}
    (h0 : addr ≠ 0) (hsz : addr < a.size) (hs : (a.getD addr 0).toNat = s) (h128 : s < 128)
    (hKp : (if s % 64 ≠ 0 then (s % 64, addr) else
      (if (a.getD (addr - 1) 0).toNat = 1 then 256 else (a.getD (addr - 1) 0).toNat, addr - 1)) = (K, p))
    (hsizes : (a.getD (p - 1) 0).toNat = sizes)
    (hfinO : (if 64 ≤ s then sizes % 16 else 0) = finO)
    (hbody : (if 2 ≤ v ∧ K > Spec.INDEX_THRESHOLD then 256 else 0) + K + K * (sizes / 16)
      + K * (sizes % 16) + finO = body)
    (hfit : 1 + body ≤ p)
    (hts : (List.range K).filterMap (specTr a (p - 1 - body) K (sizes / 16) (sizes % 16) finO) = ts)
    (hlen : ts.length = K) :
    Spec.parseNode v a addr = some ⟨decide (64 ≤ s),
      if 64 ≤ s ∧ sizes % 16 ≠ 0 then (Spec.le a (p - 1 - body) (sizes % 16)).getD 0 else 0,
      ts, p - 1 - body, addr⟩ := by
  unfold Spec.parseNode
  simp only [h0, ↓reduceIte, hs, ge_iff_le, show ¬ 192 ≤ s by omega, Nat.not_le.mpr h128,
    Nat.not_le.mpr hsz, hKp, Nat.not_lt.mpr (Nat.le_of_add_right_le hfit), hsizes, hfinO, hbody,
    Nat.not_lt.mpr hfit]
  change (if ¬ (List.filterMap (specTr a (p - 1 - body) K (sizes / 16) (sizes % 16) finO)
    (List.range K)).length = K then none else some (Spec.SNode.mk _ _ (List.filterMap
      (specTr a (p - 1 - body) K (sizes / 16) (sizes % 16) finO) (List.range K)) _ _)) = _
  rw [hts, if_neg (fun h => h hlen)]

theorem target_back {start a : Nat} (h : a = 0 ∨ a < start) :
    Spec.target start (deltaVal start a) = a := by
  unfold Spec.target
  exact delta_back h

theorem _root_.Fst.OneTail.spec {l : List UInt8} {addr il s : Nat} {b : UInt8} (T : OneTail l addr il s b) :
    (l.toArray.getD addr 0).toNat = s ∧ addr < l.toArray.size ∧
    ((Spec.commonByte (s % 64) = some b ∧ il = 0) ∨
     (Spec.commonByte (s % 64) = none ∧ il = 1 ∧ l.toArray.getD (addr - 1) 0 = b)) := by
  refine ⟨by rw [arr_getD_some T.get]; exact toNat_ofNat_lt T.lt,
    by rw [List.size_toArray]; exact (List.getElem?_eq_some_iff.mp T.get).1, ?_⟩
  rw [commonByte_eq _ (Nat.mod_lt _ (by decide))]
  have hil := T.ilen
  rcases T.inp with hc | ⟨hc, h1, hg⟩
  · rw [rIlen, hc] at hil
    exact Or.inl ⟨hc, hil.symm⟩
  · exact Or.inr ⟨hc, h1, arr_getD_some hg⟩

theorem spec_otn (v : Nat) (l : List UInt8) (start : Nat) (t : Tr) (hpos : 0 < start)
    (hout : t.out = 0) (haddr : t.addr = start - 1)
    (hseg : Seg l start (compileOTN t.inp)) :
    Spec.parseNode v l.toArray (start + (compileOTN t.inp).length - 1)
      = some (specOf ⟨false, 0, [t]⟩ start (start + (compileOTN t.inp).length - 1)) := by
  simp only [compileOTN] at hseg ⊢
  obtain ⟨il, hil, T⟩ := one_tail (base := 192) rfl (by decide) hseg
  rw [List.length_append, hil, show start + (il + [UInt8.ofNat (192 + commonIdx t.inp 63)].length) - 1
    = start + il from rfl]
  obtain ⟨hs, hsz, hc⟩ := T.spec
  rw [parse_otn (Nat.lt_add_of_pos_left hpos) hsz hs (Nat.le_add_right ..) hc, Nat.add_sub_cancel]
  simp only [specOf, List.map_cons, List.map_nil, hout, haddr]

theorem _root_.Fst.OtLay.parse {l : List UInt8} {start osize tsize il : Nat} {t : Tr}
    (L : OtLay l start osize tsize il t) (v : Nat) (htgt : t.addr = 0 ∨ t.addr < start) :
    Spec.parseNode v l.toArray (start + osize + tsize + 1 + il)
      = some (specOf ⟨false, 0, [t]⟩ start (start + osize + tsize + 1 + il)) := by
  have hci := commonIdx_lt t.inp
  -- before `L` is taken apart: `omega` works through every arithmetic hypothesis in sight
  have h0 : start + osize + tsize + 1 + il ≠ 0 := by omega
  have h192 : 128 + commonIdx t.inp 63 < 192 := by omega
  have hfit : 1 + tsize + osize ≤ start + osize + tsize + 1 := by omega
  obtain ⟨hso, hst, hgz, T, ht1, ht8, hdv, ho8, ho0, hov⟩ := L
  obtain ⟨hs, hsz, hc⟩ := T.spec
  obtain ⟨hszb, hd, hm⟩ := sizes_byte ht8 ho8
  have e : start + osize + tsize + 1 - 1 - tsize - osize = start := by simp only [Nat.add_sub_cancel]
  rw [parse_ot (p := start + osize + tsize + 1) (sizes := tsize * 16 + osize) h0 hsz hs h192
    (Nat.le_add_right _ _)
    (hc.imp (fun h => ⟨h.1, by rw [h.2]⟩) (fun h => ⟨h.1, h.2.2.symm, by rw [h.2.1]; rfl⟩))
    (Nat.le_add_left _ _)
    (by rw [Nat.add_sub_cancel, arr_getD_some hgz]; exact hszb)
    (by rw [hd, hm]; exact hfit)
    (by rw [hd, hm, e]; exact le_seg hst hdv)
    (by rw [hd, hm, e]; exact le_seg hso hov)]
  rw [hd, hm, e, target_back htgt]
  rfl

theorem filterMap_range_map {α β : Type} (l : List α) (f : Nat → Option β) (g : α → β)
    (h : ∀ j (hj : j < l.length), f j = some (g l[j])) :
    (List.range l.length).filterMap f = l.map g := by
  induction l generalizing f with
  | nil => rfl
  | cons x xs ih =>
    rw [List.length_cons, List.range_succ_eq_map, List.filterMap_cons, h 0 (by simp),
      List.filterMap_map, List.map_cons]
    simp only [List.getElem_cons_zero]
    congr 1
    exact ih (f ∘ Nat.succ) (fun j hj => h (j + 1) (by simpa using hj))

theorem spec_any_tr {w : Nat} {l : List UInt8} {start : Nat} {n : BNode} (L : AnyLay w l start n)
    (hsmall : start < 2 ^ 64) (htgt : ∀ t ∈ n.trans, t.addr = 0 ∨ t.addr < start)
    (houts : ∀ t ∈ n.trans, t.out < 2 ^ 64) (j : Nat) (hj : j < n.trans.length) :
    specTr l.toArray start n.trans.length (anyTsize start n) (aO n) (if n.fin then aO n else 0) j
      = some (n.trans[j].inp, n.trans[j].out, n.trans[j].addr) := by
  have hmem : n.trans[j] ∈ n.trans := List.getElem_mem hj
  unfold specTr
  simp only [le_seg (L.delta hsmall hj).1 (L.delta hsmall hj).2.1, arr_getD_some (L.inp hj),
    target_back (htgt _ hmem)]
  by_cases h0 : aO n = 0
  · simp only [h0, if_true, (aO_zero h0).2 _ hmem]
  · simp only [h0, if_false, le_seg (L.out houts hj).1 (L.out houts hj).2, Option.getD_some]

theorem spec_any (v w : Nat) (l : List UInt8) (start : Nat) (n : BNode)
    (hvw : indexSize v n.trans.length = indexSize w n.trans.length)
    (hsmall : start < 2 ^ 64) (h256 : n.trans.length ≤ 256)
    (htgt : ∀ t ∈ n.trans, t.addr = 0 ∨ t.addr < start)
    (hfo : n.fout < 2 ^ 64) (houts : ∀ t ∈ n.trans, t.out < 2 ^ 64)
    (hfin : n.fin = false → n.fout = 0)
    (hseg : Seg l start (Spec.compileAnyV w start n)) :
    Spec.parseNode v l.toArray (start + (Spec.compileAnyV w start n).length - 1)
      = some (specOf n start (start + (Spec.compileAnyV w start n).length - 1)) := by
  have L := any_lay hseg
  have haddr := compileAnyV_addr w start n
  have hpos : 0 < start + (Spec.compileAnyV w start n).length :=
    Nat.add_pos_right _ (List.length_pos_iff.mpr (compileAnyV_ne_nil w start n))
  have hlt : anyAddr w start n < l.length := haddr ▸ Nat.sub_one_lt_of_le hpos (seg_len hseg)
  rw [haddr]
  obtain ⟨hp1, hfit, hfirst⟩ := anyAddr_body w start n
  have hO := aO_le n
  obtain ⟨hsz, hd, hm⟩ := sizes_byte (anyTsize_le start n) hO
  have hS := anyS_lt n
  have hmain := parse_any (v := v) (a := l.toArray) (addr := anyAddr w start n) (s := anyS n)
    (K := n.trans.length) (p := anyAddr w start n - (aNb n).length)
    (sizes := anyTsize start n * 16 + aO n) (finO := if n.fin then aO n else 0)
    (body := (aIdx w n).length + n.trans.length + n.trans.length * anyTsize start n
      + n.trans.length * aO n + (if n.fin then aO n else 0))
    (ts := n.trans.map fun t => (t.inp, t.out, t.addr))
    (h0 := anyAddr_pos w start n) (hsz := hlt)
    (hs := by rw [arr_getD_some L.sSb]; exact toNat_ofNat_lt (Nat.lt_trans hS (by decide))) (h128 := hS)
    (hKp := by
      rw [aNb_length, ← anyS_mod]
      rcases any_ntrans L h256 with ⟨h1, hK⟩ | ⟨h1, nb, h2, hK⟩
      · rw [if_pos h1, if_neg h1, ← hK]; rfl
      · rw [if_neg (not_not_intro h1), if_pos h1, arr_getD_some h2, ← hK])
    (hsizes := by rw [anyAddr_sizes, arr_getD_some L.sSz]; exact hsz)
    (hfinO := by rw [hm]; simp only [anyS_ge])
    (hbody := by rw [hd, hm, aIdx_length, ← hvw, indexSize]; rfl)
    (hfit := hfit)
    (hts := by
      rw [hd, hm, hfirst]
      exact filterMap_range_map n.trans _ _ (fun j hj => spec_any_tr L hsmall htgt houts j hj))
    (hlen := by simp)
  rw [hmain, hm, hfirst]
  simp only [specOf, anyS_ge, Bool.decide_eq_true, Option.some.injEq, Spec.SNode.mk.injEq, and_true,
    true_and]
  by_cases hf : n.fin = true
  · by_cases h0 : aO n = 0
    · simp [h0, (aO_zero h0).1]
    · rw [if_pos ⟨hf, h0⟩, le_seg (L.fout hf hfo).1 (L.fout hf hfo).2]; rfl
  · rw [if_neg (fun h => hf h.1), hfin (by simpa using hf)]

end SpecP
open SpecP

/-- the format description, as version `v`, reads back what a version-`w` encoder wrote -/
theorem Written.parse {v w start : Nat} {n : BNode} {enc l : List UInt8} {lastAddr : Nat}
    (W : Written w start n enc) (hvw : indexSize v n.trans.length = indexSize w n.trans.length)
    (wf : WFNode n lastAddr start) (hseg : Seg l start enc) :
    Spec.parseNode v l.toArray (start + enc.length - 1)
      = some (specOf n start (start + enc.length - 1)) := by
  cases W with
  | any =>
    exact spec_any v w l start n hvw wf.small wf.ntrans wf.targets
      wf.outs.1 wf.outs.2 wf.finOut hseg
  | next t ho ha => exact spec_otn v l start t wf.pos ho ha hseg
  | one t =>
    obtain ⟨osize, tsize, il, ha, L⟩ := ot_lay wf.small (wf.outs.2 t List.mem_cons_self) hseg
    rw [ha]
    exact L.parse v (wf.targets t List.mem_cons_self)

theorem spec_parseNode_seg (v : Nat) (n : BNode) (lastAddr start : Nat) (enc l : List UInt8)
    (hv : 2 ≤ v ∨ n.trans.length ≤ Gen.TRANS_INDEX_THRESHOLD)
    (wf : WFNode n lastAddr start) (henc : compileNode n lastAddr start = some enc)
    (hseg : Seg l start enc) :
    enc ≠ [] ∧ Spec.parseNode v l.toArray (start + enc.length - 1)
      = some (specOf n start (start + enc.length - 1)) :=
  have W := compileNode_written wf henc
  ⟨W.ne_nil, W.parse (indexSize_agree (Or.inr (hv.imp (fun h => ⟨h, Nat.le_refl 2⟩) id))) wf hseg⟩

theorem spec_parseNode_zero (v : Nat) (a : Array UInt8) :
    Spec.parseNode v a 0 = some ⟨true, 0, [], 0, 0⟩ := rfl

example : WFNode exBig 99999 100000 ∧ (2 ≤ 3 ∨ exBig.trans.length ≤ Gen.TRANS_INDEX_THRESHOLD) ∧
    ∃ enc, compileNode exBig 99999 100000 = some enc :=
  ⟨exBig_wf, Or.inl (by decide), compileNode_isSome exBig 99999 100000 (by decide)⟩

example :
    Spec.parseNode 3 ((List.replicate 100 (0 : UInt8) ++ [5, 192] ++ [7]).toArray) 101
      = some ⟨false, 0, [(5, 0, 99)], 100, 101⟩ ∧
    Spec.parseNode 1 ((List.replicate 100 (0 : UInt8) ++ [44, 1, 80, 18, 129] ++ []).toArray) 104
      = some ⟨false, 0, [(116, 300, 20)], 100, 104⟩ ∧
    Spec.parseNode 2 ((List.replicate 100 (0 : UInt8) ++ [5, 1, 0, 64] ++ [9, 9]).toArray) 103
      = some ⟨true, 5, [], 100, 103⟩ := by
  refine ⟨?_, ?_, ?_⟩
  · obtain ⟨_, h⟩ := spec_parseNode_seg 3 ⟨false, 0, [⟨5, 0, 99⟩]⟩ 99 100 [5, 192]
      (List.replicate 100 (0 : UInt8) ++ [5, 192] ++ [7]) (Or.inl (by decide))
      ⟨by decide, by unfold SortedInputs; decide, by decide, by decide, by decide, by decide,
        by decide, Or.inl rfl, by decide⟩ (by decide +kernel) ⟨_, _, rfl, by simp⟩
    exact h
  · obtain ⟨_, h⟩ := spec_parseNode_seg 1 ⟨false, 0, [⟨116, 300, 20⟩]⟩ 99 100 [44, 1, 80, 18, 129]
      (List.replicate 100 (0 : UInt8) ++ [44, 1, 80, 18, 129] ++ []) (Or.inr (by decide))
      ⟨by decide, by unfold SortedInputs; decide, by decide, by decide, by decide, by decide,
        by decide, Or.inl rfl, by decide⟩ (by decide +kernel) ⟨_, _, rfl, by simp⟩
    exact h
  · obtain ⟨_, h⟩ := spec_parseNode_seg 2 ⟨true, 5, []⟩ 1 100 [5, 1, 0, 64]
      (List.replicate 100 (0 : UInt8) ++ [5, 1, 0, 64] ++ [9, 9]) (Or.inl (by decide))
      ⟨by decide, by unfold SortedInputs; decide, by decide, by decide, by decide, by decide,
        by decide, Or.inr (by decide), by decide⟩ (by decide +kernel) ⟨_, _, rfl, by simp⟩
    exact h

/- The version guard `hv` cannot be dropped. Evaluating `Spec.parseNode` at the address of `exBig`
written at offset 100000 (40 transitions, so the writer emits the 256-byte index): as version 1 it
returns `first = 100256 ≠ 100000` and different transitions, as versions 2 and 3 it returns `exBig`. -/

end Fst
