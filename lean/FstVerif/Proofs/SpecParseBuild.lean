import FstVerif.Proofs.SpecParseWalk
import FstVerif.Proofs.EndToEndFile
/-
The builder. Every node the builder emits is reachable from the root after
`finish` (`finish_reach`, Proofs/BuildReach.lean) and the emitted chunks are a laid-out store
(`E2E.layout_laid`), so the complete file written by the model builder is read by the format
description (`Spec.parseFst`) as exactly the inserted map, with a tiled body.
-/
namespace Fst
open SpecP

section
open E2E

/-- **C09 end to end.** The complete file bytes produced by the model builder from a reachable
state spelling `acc` (all stored outputs `≤ M < 2^64`, file no longer than `2^64` bytes), read by
the parser written from the format description alone: version 3, the given type, the number
of keys, exactly the inserted map, and the node extents tile the body (a `some` from `Spec.walk`
also means that every node it visited parsed and every target was an earlier node or 0). -/
theorem spec_parseFst_fileBytes {s : BState} {acc : KV} (hr : Reachable s) (hinv : Inv s acc)
    {M : Nat} (hB : InvB M s) (hM : M < 2 ^ 64) (ty : Nat) (hty : ty < 2 ^ 64)
    (bytes : List UInt8) (hfile : s.fileBytes ty = .ok bytes) (hsz : bytes.length ≤ 2 ^ 64)
    (hlen : acc.length < 2 ^ 64) :
    Spec.parseFst bytes = some ⟨3, ty, acc.length, acc, true⟩ := by
  obtain ⟨s', root, hf⟩ := finish_ok hinv.core
  have F := finish_spec hinv.core hf
  obtain ⟨hL, hroot, _⟩ := file_shape hr hf
  rw [fileBytes_eq ty hf] at hfile
  cases hfile
  have hcount : s'.count ≤ 2 ^ 64 := by have := fileOf_length hL ty root; omega
  have hb : OutBound s' := outBound_of_le hM (finish_bound hinv.core hB hf)
  have hin : root = 0 ∨ ∃ e ∈ s'.out.reverse.map tri, e.1 = root := by
    rcases F.addr.2 with h0 | ⟨n, hn⟩
    · exact Or.inl h0
    · simp only [rstore, List.mem_map, Prod.mk.injEq] at hn
      obtain ⟨e, he, ha, _⟩ := hn
      exact Or.inr ⟨tri e, List.mem_map.mpr ⟨e, List.mem_reverse.mpr he, rfl⟩, ha⟩
  have hreach : ∀ e ∈ s'.out.reverse.map tri,
      ReachFrom ((s'.out.reverse.map tri).map fun e => (e.1, e.2.1)) root e.1 := by
    intro e he
    rw [storeOf_tri]
    obtain ⟨e0, he0, rfl⟩ := List.mem_map.mp he
    exact finish_reach hr hf e0 (List.mem_reverse.mp he0)
  have hfile : fileOf ty s' root = u64le 3 ++ u64le ty ++ (s'.out.reverse.map tri).flatMap (·.2.2) ++
      u64le s'.len ++ u64le root ++ u32le (crcOf (bodyBytes ty s' root)) := by
    rw [List.flatMap_map]; rfl
  rw [hfile, spec_parseFst_reach _ (denOf (storeOf s')) (layout_laid hL hb hcount 3 (by decide))
    (by rw [storeOf_tri]; exact hL.good) ty s'.len root _ hty (by rw [F.len, hinv.core.len]; exact hlen)
    (by omega) hin hreach, denOf_storeOf, F.den, F.len, hinv.core.len]

end

/-- map mode, from an empty builder: the file of a sorted association list parses back to it -/
theorem spec_parseFst_build (rows cols : Nat) (kvs : KV) (h : SortedKV kvs) (M : Nat)
    (hM : ∀ kv ∈ kvs, kv.2 ≤ M) (hM64 : M < 2 ^ 64) (ty : Nat) (hty : ty < 2 ^ 64)
    (hlen : kvs.length < 2 ^ 64) :
    ∃ s bytes, insertAll (BState.new rows cols) kvs = .ok s ∧ s.fileBytes ty = .ok bytes ∧
      (bytes.length ≤ 2 ^ 64 → Spec.parseFst bytes = some ⟨3, ty, kvs.length, kvs, true⟩) := by
  obtain ⟨s, e1, i1⟩ := insertAll_inv kvs (BState.new rows cols) [] (Inv_new rows cols)
    (sortedAfter_none h)
  simp only [List.nil_append] at i1
  have hr := reachable_insertAll kvs (Reachable.new rows cols) e1
  have hB := insertAll_bound kvs _ s [] (Inv_new rows cols) (InvB_new M rows cols) hM e1
  obtain ⟨bytes, hb⟩ := E2E.file_exists hr ty
  exact ⟨s, bytes, e1, hb, fun hsz => spec_parseFst_fileBytes hr i1 hB hM64 ty hty bytes hb hsz hlen⟩

example : SortedKV [([], 7), ([1], 5), ([1, 2], 3), ([1, 3], 9), ([2, 3], 1)] ∧
    (∀ kv ∈ ([([], 7), ([1], 5), ([1, 2], 3), ([1, 3], 9), ([2, 3], 1)] : KV), kv.2 ≤ 9) ∧
    (9 : Nat) < 2 ^ 64 := ⟨by simp [SortedKV, lexLt], by decide, by decide⟩

example : ∃ s bytes, insertAll (BState.new 4 2) [([97], 5)] = .ok s ∧ s.fileBytes 7 = .ok bytes ∧
    (bytes.length ≤ 2 ^ 64 → Spec.parseFst bytes = some ⟨3, 7, 1, [([97], 5)], true⟩) :=
  spec_parseFst_build 4 2 [([97], 5)] (by simp [SortedKV]) 5 (by decide) (by decide) 7 (by decide)
    (by decide)

end Fst
