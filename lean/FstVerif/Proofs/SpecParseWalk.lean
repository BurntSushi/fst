import FstVerif.Proofs.SpecParse
import FstVerif.Proofs.Reach
import FstVerif.Proofs.Store
/-
Whole stores. The traversal `Spec.walk` of the format description over the bytes of a laid-out
store (`Laid` of Proofs/Codec.lean) spells exactly the store's denotation and visits exactly the
emitted nodes reachable from the start address, each with the extent of its encoding (`WalkOK`,
`walkOK_all`); hence `spec_tiles` and, for a version-3 file, `spec_parseFst_last`; with every emitted node
reachable from the root, `spec_parseFst_reach` (what Proofs/SpecParseBuild.lean uses).
-/
namespace Fst

/-- emitted nodes `(addr, node, encoding)` as in `Laid` -/
abbrev Emits := List (Nat × BNode × List UInt8)

/-- what the format description must read at the address of an emitted node -/
def snOf (e : Nat × BNode × List UInt8) : Spec.SNode :=
  specOf e.2.1 (e.1 + 1 - e.2.2.length) e.1

namespace SpecP

/-- an emitted node sits right after the bytes of the nodes before it -/
theorem laid_at (v : Nat) (A : Emits) (start : Nat) (e : Nat × BNode × List UInt8) (B : Emits)
    (hl : Laid v start (A ++ e :: B)) :
    1 ≤ e.2.2.length ∧ e.1 + 1 = start + (A.flatMap (·.2.2)).length + e.2.2.length := by
  obtain ⟨⟨⟨last, wf, henc⟩, _⟩, h2, _⟩ := ((laidBy_append A (e :: B) start).mp (laid_by v _ _ hl)).2
  have := List.length_pos_iff.mpr (compileNode_written wf henc).ne_nil
  omega

theorem laid_lb (v : Nat) (es : Emits) (start : Nat) (hl : Laid v start es)
    (e : Nat × BNode × List UInt8) (he : e ∈ es) :
    start + e.2.2.length ≤ e.1 + 1 ∧ 1 ≤ e.2.2.length := by
  obtain ⟨A, B, rfl⟩ := List.append_of_mem he
  have := laid_at v A start e B hl
  omega

theorem laid_total (v : Nat) (es : Emits) (start : Nat) (e : Nat × BNode × List UInt8)
    (hl : Laid v start es) (h : es.getLast? = some e) :
    start + (es.flatMap (·.2.2)).length = e.1 + 1 := by
  obtain ⟨A, rfl⟩ := List.getLast?_eq_some_iff.mp h
  have := laid_at v A start e [] hl
  simp only [List.flatMap_append, List.flatMap_cons, List.flatMap_nil, List.length_append,
    List.append_nil]
  omega

theorem laid_ub (v : Nat) (es : Emits) (start : Nat) (hl : Laid v start es)
    (e : Nat × BNode × List UInt8) (he : e ∈ es) :
    e.1 + 1 ≤ start + (es.flatMap (·.2.2)).length := by
  obtain ⟨A, B, rfl⟩ := List.append_of_mem he
  have := laid_at v A start e B hl
  simp only [List.flatMap_append, List.flatMap_cons, List.length_append]
  omega

/-- a relation that forces `f` to increase along the list makes `f` injective on it -/
theorem pairwise_inj {α : Type} {R : α → α → Prop} {f : α → Nat} {l : List α} (h : l.Pairwise R)
    (hR : ∀ a b, R a b → f a < f b) : ∀ a ∈ l, ∀ b ∈ l, f a = f b → a = b :=
  fun _ ha _ hb => List.Pairwise.forall_of_forall_of_flip (R := fun a b => f a = f b → a = b)
    (fun _ _ _ => rfl) (h.imp fun r e => absurd e (Nat.ne_of_lt (hR _ _ r)))
    (h.imp fun r e => absurd e.symm (Nat.ne_of_lt (hR _ _ r))) ha hb

/-- each emitted node ends before the first byte of every later one -/
theorem laid_sorted (v : Nat) : ∀ (es : Emits) (start : Nat), Laid v start es →
    es.Pairwise fun e e' => 1 ≤ e.2.2.length ∧ e.1 + e'.2.2.length ≤ e'.1 ∧ 1 ≤ e'.2.2.length := by
  intro es
  induction es with
  | nil => exact fun _ _ => List.Pairwise.nil
  | cons e0 rest ih =>
    intro start hl
    have h0 : 1 ≤ e0.2.2.length ∧ e0.1 + 1 = start + e0.2.2.length := laid_at v [] start e0 rest hl
    exact List.pairwise_cons.mpr
      ⟨fun e he => by have := laid_lb v rest _ hl.2.2.2 e he; omega, ih _ hl.2.2.2⟩

theorem laid_inj (v : Nat) (es : Emits) (start : Nat) (hl : Laid v start es) :
    ∀ e ∈ es, ∀ e' ∈ es, e.1 = e'.1 → e = e' :=
  pairwise_inj (laid_sorted v es start hl) fun _ _ h => by omega

theorem laid_parse (v : Nat) (es : Emits) (pre post : List UInt8) (hl : Laid v pre.length es)
    (e : Nat × BNode × List UInt8) (he : e ∈ es) :
    Spec.parseNode v (pre ++ es.flatMap (·.2.2) ++ post).toArray e.1 = some (snOf e) := by
  obtain ⟨st, hseg, ⟨last, wf, henc⟩, haddr, hv⟩ := laid_mem v es _ pre post rfl hl e he
  obtain ⟨hne, h⟩ := spec_parseNode_seg v e.2.1 last st e.2.2 _ hv wf henc hseg
  have hne := List.length_pos_iff.mpr hne
  rw [snOf, haddr, h, Nat.sub_add_cancel (Nat.le_add_left_of_le hne), Nat.add_sub_cancel]

theorem lift_map (b : UInt8) (o : Nat) (l : KV) (pfx : List UInt8) (out : Nat) :
    (lift b o l).map (fun kv => (pfx.reverse ++ kv.1, out + kv.2))
      = l.map (fun kv => ((b :: pfx).reverse ++ kv.1, out + o + kv.2)) := by
  simp [lift, List.map_map, Function.comp_def, Nat.add_assoc]

end SpecP
open SpecP

/-- `sn` is what the format description reads at an emitted node reachable from `addr` -/
def Vis (es : Emits) (addr : Nat) (sn : Spec.SNode) : Prop :=
  ∃ e ∈ es, sn = snOf e ∧ ReachFrom (es.map fun e => (e.1, e.2.1)) addr e.1

/-- the nodes visited from `addr` are exactly the emitted nodes reachable from it -/
def VisitOK (es : Emits) (addr : Nat) (nodes : List Spec.SNode) : Prop :=
  ∀ sn, sn ∈ nodes ↔ Vis es addr sn

/-- `Spec.walk` from `addr` with this fuel, for every key prefix and output carried so far, returns
what `addr` spells and visits the emitted nodes reachable from it -/
def WalkOK (v : Nat) (a : Array UInt8) (es : Emits) (den : Nat → KV) (fuel addr : Nat) : Prop :=
  ∀ pfx out, ∃ nodes, Spec.walk v a fuel addr pfx out
      = some ((den addr).map fun kv => (pfx.reverse ++ kv.1, out + kv.2), nodes) ∧
    VisitOK es addr nodes

namespace SpecP

/-- the inner loop of `Spec.walk` over the transitions of one node, given `WalkOK` at every target -/
theorem goT_spec {v : Nat} {a : Array UInt8} {es : Emits} {den : Nat → KV} {fuel addr : Nat}
    (pfx : List UInt8) (out : Nat) :
    ∀ (ts : List Tr), (∀ t ∈ ts, WalkOK v a es den fuel t.addr) → (∀ t ∈ ts, t.addr < addr) →
    ∀ (kvs : List (List UInt8 × Nat)) (ns : List Spec.SNode),
    ∃ nodes', Spec.walk.goT v a fuel addr pfx out (ts.map fun t => (t.inp, t.out, t.addr)) kvs ns
        = some (kvs ++ (ts.flatMap fun t => lift t.inp t.out (den t.addr)).map
            (fun kv => (pfx.reverse ++ kv.1, out + kv.2)), ns ++ nodes') ∧
      ∀ sn, sn ∈ nodes' ↔ ∃ t ∈ ts, Vis es t.addr sn := by
  intro ts
  induction ts with
  | nil => exact fun _ _ kvs ns => ⟨[], by simp [Spec.walk.goT], by simp⟩
  | cons t rest ih =>
    intro hW hlt kvs ns
    obtain ⟨n2, hw, hv⟩ := hW t List.mem_cons_self (t.inp :: pfx) (out + t.out)
    obtain ⟨n3, hg, hr⟩ := ih
      (fun t' ht' => hW t' (List.mem_cons_of_mem _ ht'))
      (fun t' ht' => hlt t' (List.mem_cons_of_mem _ ht'))
      (kvs ++ (den t.addr).map fun kv => ((t.inp :: pfx).reverse ++ kv.1, out + t.out + kv.2)) (ns ++ n2)
    refine ⟨n2 ++ n3, ?_, fun sn => ?_⟩
    · have := hlt t List.mem_cons_self
      rw [List.map_cons, Spec.walk.goT.eq_2, if_neg (by omega), hw]
      simp only
      rw [hg, List.flatMap_cons, List.map_append, lift_map, List.append_assoc, List.append_assoc]
    · simp only [List.mem_append, hv sn, hr sn, List.mem_cons, exists_eq_or_imp]

theorem reach_cases {s : Store} {a b : Nat} (h : ReachFrom s a b) :
    a = b ∨ ∃ n t, (a, n) ∈ s ∧ t ∈ n.trans ∧ ReachFrom s t.addr b := by
  cases h with
  | refl => exact Or.inl rfl
  | step hm ht hr => exact Or.inr ⟨_, _, hm, ht, hr⟩

/-- reachability from an emitted node, unfolded by one step -/
theorem vis_step {v : Nat} {es : Emits} {start : Nat} {den : Nat → KV} (hl : Laid v start es)
    (hg : GoodStore (es.map fun e => (e.1, e.2.1)) den) {e : Nat × BNode × List UInt8} (he : e ∈ es)
    (sn : Spec.SNode) : Vis es e.1 sn ↔ sn = snOf e ∨ ∃ t ∈ e.2.1.trans, Vis es t.addr sn := by
  constructor
  · rintro ⟨e', he', rfl, hr⟩
    rcases reach_cases hr with heq | ⟨n, t, hm, ht, hr'⟩
    · exact Or.inl (by rw [laid_inj v es _ hl e' he' e he heq.symm])
    · cases hg.functional _ _ _ hm (List.mem_map_of_mem he)
      exact Or.inr ⟨t, ht, e', he', rfl, hr'⟩
  · rintro (rfl | ⟨t, ht, e', he', rfl, hr⟩)
    · exact ⟨e, he, rfl, ReachFrom.refl _⟩
    · exact ⟨e', he', rfl, ReachFrom.step (List.mem_map_of_mem he) ht hr⟩

theorem reach_zero_nil {es : Emits} {den : Nat → KV}
    (hg : GoodStore (es.map fun e => (e.1, e.2.1)) den)
    (hreach : ∀ e ∈ es, ReachFrom (es.map fun e => (e.1, e.2.1)) 0 e.1) : es = [] := by
  cases es with
  | nil => rfl
  | cons e rest =>
    have := ReachFrom.le hg (hreach e List.mem_cons_self)
    have := hg.addr_pos _ _ (List.mem_map_of_mem (List.mem_cons_self (a := e) (l := rest)))
    omega

theorem walkOK_all (v : Nat) (es : Emits) (pre post : List UInt8) (den : Nat → KV)
    (hl : Laid v pre.length es) (hg : GoodStore (es.map fun e => (e.1, e.2.1)) den) :
    ∀ (addr : Nat), (addr = 0 ∨ ∃ e ∈ es, e.1 = addr) → ∀ fuel, addr < fuel →
      WalkOK v (pre ++ es.flatMap (·.2.2) ++ post).toArray es den fuel addr := by
  intro addr
  -- targets are strictly smaller addresses (`GoodStore.acyclic`): strong induction on the address,
  -- and the fuel, spent one per level, only has to exceed it
  induction addr using Nat.strongRecOn with
  | _ addr ih =>
    intro hin fuel hfuel pfx out
    obtain ⟨fuel, rfl⟩ := Nat.exists_eq_add_one_of_ne_zero (Nat.ne_zero_of_lt hfuel)
    rw [Spec.walk.eq_2]
    rcases hin with rfl | ⟨e, he, rfl⟩
    · refine ⟨[], ?_, fun sn => ⟨nofun, ?_⟩⟩
      · rw [spec_parseNode_zero, hg.den_zero]
        simp [Spec.walk.goT]
      · rintro ⟨e, he, _, hr⟩
        exact absurd (ReachFrom.le hg hr) (Nat.not_le.mpr (hg.addr_pos _ _ (List.mem_map_of_mem he)))
    · have hpos := hg.addr_pos _ _ (List.mem_map_of_mem he)
      have hac := hg.acyclic _ _ (List.mem_map_of_mem he)
      obtain ⟨n3, hgo, hr⟩ := goT_spec (v := v) (a := (pre ++ es.flatMap (·.2.2) ++ post).toArray)
        (es := es) (den := den) (fuel := fuel) (addr := e.1) pfx out e.2.1.trans
        (fun t ht => ih t.addr (hac t ht).1 (by
          rcases (hac t ht).2 with h0 | ⟨m, hm⟩
          · exact Or.inl h0
          · obtain ⟨e', he', heq⟩ := List.mem_map.mp hm
            exact Or.inr ⟨e', he', by simpa using (congrArg Prod.fst heq)⟩) fuel
          (Nat.lt_of_lt_of_le (hac t ht).1 (Nat.le_of_lt_succ hfuel)))
        (fun t ht => (hac t ht).1)
        (if (snOf e).fin = true then [(pfx.reverse, out + (snOf e).fout)] else []) [snOf e]
      refine ⟨[snOf e] ++ n3, ?_, fun sn => ?_⟩
      · rw [laid_parse v es pre post hl e he]
        simp only [if_neg (Nat.ne_of_gt hpos)]
        have htr : (snOf e).trans = e.2.1.trans.map fun t => (t.inp, t.out, t.addr) := rfl
        rw [htr, hgo, hg.unfold _ _ (List.mem_map_of_mem he), denNodeWith, List.map_append]
        congr 3
        simp only [snOf, specOf, own]
        by_cases hf : e.2.1.fin = true <;> simp [hf]
      · rw [List.mem_append, List.mem_singleton, hr sn, vis_step hl hg he]

end SpecP
open SpecP

/-- C09, store level: the traversal of the format description from an emitted address (or 0) returns
the denotation of that address and visits exactly the emitted nodes reachable from it, each read
back with the content and extent of the emit -/
theorem spec_walk_den (v : Nat) (es : Emits) (pre post : List UInt8) (den : Nat → KV)
    (hl : Laid v pre.length es) (hg : GoodStore (es.map fun e => (e.1, e.2.1)) den)
    (addr : Nat) (hin : addr = 0 ∨ ∃ e ∈ es, e.1 = addr) (fuel : Nat) (hfuel : addr < fuel)
    (pfx : List UInt8) (out : Nat) :
    ∃ nodes, Spec.walk v (pre ++ es.flatMap (·.2.2) ++ post).toArray fuel addr pfx out
        = some ((den addr).map fun kv => (pfx.reverse ++ kv.1, out + kv.2), nodes) ∧
      (∀ sn ∈ nodes, ∃ e ∈ es, sn = snOf e ∧ ReachFrom (es.map fun e => (e.1, e.2.1)) addr e.1) ∧
      (∀ e ∈ es, ReachFrom (es.map fun e => (e.1, e.2.1)) addr e.1 → snOf e ∈ nodes) :=
  let ⟨nodes, h, hv⟩ := walkOK_all v es pre post den hl hg addr hin fuel hfuel pfx out
  ⟨nodes, h, fun sn hsn => (hv sn).mp hsn, fun e he hr => (hv _).mpr ⟨e, he, rfl, hr⟩⟩

theorem spec_walk_root (v : Nat) (es : Emits) (pre post : List UInt8) (den : Nat → KV)
    (hl : Laid v pre.length es) (hg : GoodStore (es.map fun e => (e.1, e.2.1)) den)
    (root : Nat) (hin : root = 0 ∨ ∃ e ∈ es, e.1 = root) (fuel : Nat) (hfuel : root < fuel) :
    ∃ nodes, Spec.walk v (pre ++ es.flatMap (·.2.2) ++ post).toArray fuel root [] 0
        = some (den root, nodes) ∧ VisitOK es root nodes := by
  obtain ⟨nodes, h1, h2⟩ := walkOK_all v es pre post den hl hg root hin fuel hfuel [] 0
  exact ⟨nodes, by simpa using h1, h2⟩

/-- extent (first byte, last byte) of an emitted node -/
def extOf (e : Nat × BNode × List UInt8) : Nat × Nat := (e.1 + 1 - e.2.2.length, e.1)

namespace SpecP

def FstLt (p q : Nat × Nat) : Prop := p.1 < q.1

theorem ins_spec (p : Nat × Nat) : ∀ (S : List (Nat × Nat)), S.Pairwise FstLt →
    (∀ q ∈ S, q.1 = p.1 → q = p) →
    (Spec.tiles.ins p S).Pairwise FstLt ∧ ∀ x, x ∈ Spec.tiles.ins p S ↔ x = p ∨ x ∈ S := by
  intro S
  induction S with
  | nil => simp [Spec.tiles.ins]
  | cons q qs ih =>
    intro hS hinj
    obtain ⟨hq, hqs⟩ := List.pairwise_cons.mp hS
    unfold Spec.tiles.ins
    by_cases h1 : p.1 < q.1
    · rw [if_pos h1]
      exact ⟨List.pairwise_cons.mpr ⟨fun x hx => (List.mem_cons.mp hx).elim (· ▸ h1)
        fun hx => Nat.lt_trans h1 (hq x hx), hS⟩, fun x => List.mem_cons⟩
    · rw [if_neg h1]
      by_cases h2 : p = q
      · subst h2
        rw [if_pos (beq_self_eq_true p)]
        exact ⟨hS, fun x => by simp⟩
      · rw [if_neg (by simpa using h2)]
        obtain ⟨i1, i2⟩ := ih hqs (fun x hx => hinj x (List.mem_cons_of_mem _ hx))
        have hlt : q.1 < p.1 :=
          Nat.lt_of_le_of_ne (Nat.not_lt.mp h1) fun h => h2 (hinj q List.mem_cons_self h).symm
        refine ⟨List.pairwise_cons.mpr ⟨fun x hx => ((i2 x).mp hx).elim (· ▸ hlt) (hq x), i1⟩,
          fun x => ?_⟩
        rw [List.mem_cons, i2 x, List.mem_cons]
        exact or_left_comm

theorem foldr_ins_spec : ∀ (xs : List (Nat × Nat)),
    (∀ p ∈ xs, ∀ q ∈ xs, p.1 = q.1 → p = q) →
    (xs.foldr Spec.tiles.ins []).Pairwise FstLt ∧ ∀ x, x ∈ xs.foldr Spec.tiles.ins [] ↔ x ∈ xs
  | [], _ => by simp
  | p :: xs, hinj => by
    obtain ⟨i1, i2⟩ := foldr_ins_spec xs
      (fun a ha b hb => hinj a (List.mem_cons_of_mem _ ha) b (List.mem_cons_of_mem _ hb))
    obtain ⟨j1, j2⟩ := ins_spec p _ i1
      (fun q hq h => hinj q (List.mem_cons_of_mem _ ((i2 q).mp hq)) p List.mem_cons_self h)
    rw [List.foldr_cons]
    refine ⟨j1, fun x => ?_⟩
    rw [j2 x, i2 x, List.mem_cons]

theorem laid_ext_sorted (v : Nat) (es : Emits) (start : Nat) (hl : Laid v start es) :
    (es.map extOf).Pairwise FstLt :=
  List.pairwise_map.mpr ((laid_sorted v es start hl).imp fun h => by simp only [FstLt, extOf]; omega)

theorem laid_chk (v root : Nat) : ∀ (es : Emits) (start : Nat), Laid v start es →
    start + (es.flatMap (·.2.2)).length = root + 1 →
    Spec.tiles.chk root start (es.map extOf) = true := by
  intro es
  induction es with
  | nil =>
    intro start _ h
    simp only [List.flatMap_nil, List.length_nil, Nat.add_zero] at h
    simp [Spec.tiles.chk, h]
  | cons e0 rest ih =>
    intro start hl h
    have hk : 1 ≤ e0.2.2.length ∧ e0.1 + 1 = start + e0.2.2.length := laid_at v [] start e0 rest hl
    simp only [List.flatMap_cons, List.length_append, ← Nat.add_assoc] at h
    rw [List.map_cons]
    simp only [Spec.tiles.chk, extOf, Bool.and_eq_true, beq_iff_eq, hk.2, Nat.add_sub_cancel, true_and,
      decide_eq_true_eq]
    exact ⟨by omega, ih _ hl.2.2.2 h⟩

end SpecP
open SpecP

/-- C09, tiling: if every emitted node is reachable from the root, the extents read, sorted and
de-duplicated, are the consecutive extents of the emitted nodes, from byte 16 to the root's address -/
theorem spec_tiles (v : Nat) (es : Emits) (den : Nat → KV) (hl : Laid v 16 es)
    (hg : GoodStore (es.map fun e => (e.1, e.2.1)) den) (root : Nat) (nodes : List Spec.SNode)
    (hvis : VisitOK es root nodes)
    (hreach : ∀ e ∈ es, ReachFrom (es.map fun e => (e.1, e.2.1)) root e.1)
    (hroot : root ≠ 0 → 16 + (es.flatMap (·.2.2)).length = root + 1) :
    Spec.tiles nodes root = true := by
  have hmem : ∀ x, x ∈ nodes.map (fun n => (n.first, n.last)) ↔ x ∈ es.map extOf := by
    intro x
    constructor
    · intro hx
      obtain ⟨sn, hsn, rfl⟩ := List.mem_map.mp hx
      obtain ⟨e, he, rfl, _⟩ := (hvis sn).mp hsn
      exact List.mem_map.mpr ⟨e, he, rfl⟩
    · intro hx
      obtain ⟨e, he, rfl⟩ := List.mem_map.mp hx
      exact List.mem_map.mpr ⟨snOf e, (hvis _).mpr ⟨e, he, rfl, hreach e he⟩, rfl⟩
  have hsorted := laid_ext_sorted v es 16 hl
  obtain ⟨f1, f2⟩ := foldr_ins_spec (nodes.map fun n => (n.first, n.last))
    (fun p hp q hq => pairwise_inj hsorted (fun _ _ h => h) p ((hmem p).mp hp) q ((hmem q).mp hq))
  have heq : (nodes.map fun n => (n.first, n.last)).foldr Spec.tiles.ins [] = es.map extOf :=
    pairwise_ext (fun _ _ h1 h2 => Nat.lt_asymm h1 h2) f1 hsorted (fun x => by rw [f2 x, hmem x])
  unfold Spec.tiles
  simp only [heq]
  by_cases h0 : root = 0
  · rw [if_pos h0]
    subst h0
    rw [reach_zero_nil hg hreach]
    rfl
  · rw [if_neg h0]
    exact laid_chk v root es 16 hl (hroot h0)

namespace SpecP

/-- `Spec.parseFst` unfolded once, one hypothesis per field it reads: version `h1`, type `h2`, key count `h3`, root `h4`
(`B` = length of the node region, `foot` = length of the checksum), and the walk from the root `hw` -/
theorem parseFst_unfold (bytes : List UInt8) (v foot ty len root B : Nat)
    (kvs : List (List UInt8 × Nat)) (ns : List Spec.SNode)
    (hv : v ≠ 0 ∧ v ≤ 3) (hfoot : foot = if v ≥ 3 then 4 else 0)
    (h1 : Spec.le bytes.toArray 0 8 = some v) (h2 : Spec.le bytes.toArray 8 8 = some ty)
    (hsz : bytes.length = 32 + foot + B)
    (h3 : Spec.le bytes.toArray (16 + B) 8 = some len)
    (h4 : Spec.le bytes.toArray (24 + B) 8 = some root)
    (hc1 : root ≠ 0 → root + 1 = 16 + B) (hc2 : root = 0 → B = 0)
    (hw : Spec.walk v bytes.toArray (32 + foot + B + 2) root [] 0 = some (kvs, ns)) :
    Spec.parseFst bytes = some ⟨v, ty, len, kvs, Spec.tiles ns root⟩ := by
  unfold Spec.parseFst
  simp only [h1, h2, Spec.VERSION_MAX, List.size_toArray, hsz, ← hfoot]
  simp only [not_or.mpr ⟨hv.1, Nat.not_lt.mpr hv.2⟩, ↓reduceIte, Nat.not_lt.mpr (Nat.le_add_right ..),
    show 32 + foot + B - foot - 16 = 16 + B by omega, show 32 + foot + B - foot - 8 = 24 + B by omega, h3, h4]
  rw [if_neg (by intro h; have := hc1 h.1; omega), if_neg (by intro h; have := hc2 h.1; omega), hw]

end SpecP
open SpecP

/-- C09, whole file: `Spec.parseFst` on a version-3 file whose body is a laid-out store and whose
root is the last emitted node returns the header fields, `len` and exactly `den root`; with every
node reachable the extents tile the body -/
theorem spec_parseFst_last (es : Emits) (den : Nat → KV) (hl : Laid 3 16 es)
    (hg : GoodStore (es.map fun e => (e.1, e.2.1)) den) (ty len root crc : Nat)
    (hty : ty < 2 ^ 64) (hlen : len < 2 ^ 64) (hroot : root < 2 ^ 64)
    (hlast : (root = 0 ∧ es = []) ∨ ∃ e, es.getLast? = some e ∧ e.1 = root) :
    ∃ tiled, Spec.parseFst (u64le 3 ++ u64le ty ++ es.flatMap (·.2.2) ++ u64le len ++ u64le root
        ++ u32le crc) = some ⟨3, ty, len, den root, tiled⟩ ∧
      ((∀ e ∈ es, ReachFrom (es.map fun e => (e.1, e.2.1)) root e.1) → tiled = true) := by
  -- the root is 0 and the body empty, or the root is the last byte of the body
  have ⟨hin, hr0, hr1⟩ : (root = 0 ∨ ∃ e ∈ es, e.1 = root) ∧ (root = 0 → es = []) ∧
      (root ≠ 0 → 16 + (es.flatMap (·.2.2)).length = root + 1) := by
    rcases hlast with ⟨h0, hes⟩ | ⟨e, he, rfl⟩
    · exact ⟨Or.inl h0, fun _ => hes, fun h => absurd h0 h⟩
    · have hmem := List.mem_of_getLast? he
      have hpos := hg.addr_pos _ _ (List.mem_map_of_mem hmem)
      exact ⟨Or.inr ⟨e, hmem, rfl⟩, fun h => by omega, fun _ => laid_total 3 es 16 e hl he⟩
  have e64 : (256 : Nat) ^ 8 = 2 ^ 64 := by decide
  have hpre : (u64le 3 ++ u64le ty).length = 16 := by simp [u64le, packIn_length]
  have hbytes : u64le 3 ++ u64le ty ++ es.flatMap (·.2.2) ++ u64le len ++ u64le root ++ u32le crc
      = (u64le 3 ++ u64le ty) ++ es.flatMap (·.2.2) ++ (u64le len ++ u64le root ++ u32le crc) := by
    simp only [List.append_assoc]
  have hsz : (u64le 3 ++ u64le ty ++ es.flatMap (·.2.2) ++ u64le len ++ u64le root ++ u32le crc).length
      = 32 + 4 + (es.flatMap (·.2.2)).length := by
    simp only [List.length_append, u64le, u32le, packIn_length]; omega
  obtain ⟨nodes, hw, hvis⟩ := spec_walk_root 3 es (u64le 3 ++ u64le ty)
    (u64le len ++ u64le root ++ u32le crc) den (hpre ▸ hl) hg root hin
    -- the fuel `Spec.parseFst` passes: the file size + 2
    (36 + (es.flatMap (·.2.2)).length + 2) (by omega)
  rw [← hbytes] at hw
  refine ⟨Spec.tiles nodes root, ?_, fun hreach => spec_tiles 3 es den hl hg root nodes hvis hreach hr1⟩
  -- the file cut at its fields, which gives the four that `parseFst_unfold` reads
  obtain ⟨hS, -⟩ := seg_append
    (seg_all (u64le 3 ++ u64le ty ++ es.flatMap (·.2.2) ++ u64le len ++ u64le root ++ u32le crc))
  obtain ⟨hS, s4⟩ := seg_append hS
  obtain ⟨hS, s3⟩ := seg_append hS
  obtain ⟨hS, -⟩ := seg_append hS
  obtain ⟨s0, s1⟩ := seg_append hS
  simp only [List.length_append, u64le_length, Nat.zero_add] at s1 s3 s4
  exact parseFst_unfold _ 3 4 ty len root _ (den root) nodes (hv := ⟨by decide, by decide⟩) (hfoot := rfl)
    (h1 := le_seg s0 (by decide)) (h2 := le_seg s1 (e64 ▸ hty)) (hsz := hsz) (h3 := le_seg s3 (e64 ▸ hlen))
    (h4 := le_seg (seg_cast s4 (by omega)) (e64 ▸ hroot)) (hc1 := fun h => (hr1 h).symm)
    (hc2 := fun h => by rw [hr0 h]; rfl) (hw := hw)

/-- with every emitted node reachable, `root` is necessarily the last emitted node -/
theorem spec_parseFst_reach (es : Emits) (den : Nat → KV) (hl : Laid 3 16 es)
    (hg : GoodStore (es.map fun e => (e.1, e.2.1)) den) (ty len root crc : Nat)
    (hty : ty < 2 ^ 64) (hlen : len < 2 ^ 64) (hroot : root < 2 ^ 64)
    (hin : root = 0 ∨ ∃ e ∈ es, e.1 = root)
    (hreach : ∀ e ∈ es, ReachFrom (es.map fun e => (e.1, e.2.1)) root e.1) :
    Spec.parseFst (u64le 3 ++ u64le ty ++ es.flatMap (·.2.2) ++ u64le len ++ u64le root
        ++ u32le crc) = some ⟨3, ty, len, den root, true⟩ := by
  have hlast : (root = 0 ∧ es = []) ∨ ∃ e, es.getLast? = some e ∧ e.1 = root := by
    rcases hin with rfl | ⟨e, he, rfl⟩
    · exact Or.inl ⟨rfl, reach_zero_nil hg hreach⟩
    · cases hlast : es.getLast? with
      | none => rw [List.getLast?_eq_none_iff.mp hlast] at he; cases he
      | some e' =>
        have h1 := laid_total 3 es 16 e' hl hlast
        have h2 := ReachFrom.le hg (hreach e' (List.mem_of_getLast? hlast))
        have h3 := laid_ub 3 es 16 hl e he
        exact Or.inr ⟨e', rfl, by omega⟩
  obtain ⟨tiled, h1, h2⟩ := spec_parseFst_last es den hl hg ty len root crc hty hlen hroot hlast
  rw [h2 hreach] at h1
  exact h1

namespace SpecExample

/-! a two-node store (`{"a" ↦ 5}`): a final leaf with output 5 at bytes 16..19 and the root, a
`StateOneTransNext` node on `a` at byte 20 -/

def exEmits : Emits := [(19, ⟨true, 5, []⟩, [5, 1, 0, 64]), (20, ⟨false, 0, [⟨97, 0, 19⟩]⟩, [197])]

def exDen (a : Nat) : KV :=
  if a = 0 then [([], 0)] else if a = 19 then [([], 5)] else if a = 20 then [([97], 5)] else []

theorem exEmits_laid : Laid 3 16 exEmits := by
  refine ⟨⟨NONE_ADDRESS, ⟨by decide, by unfold SortedInputs; decide, by decide, by decide, by decide,
    by decide, by decide, Or.inr (by decide), by decide⟩, by decide +kernel⟩, by decide, Or.inl (by decide),
    ⟨19, ⟨by decide, by unfold SortedInputs; decide, by decide, by decide, by decide,
    by decide, by decide, Or.inl rfl, by decide⟩, by decide +kernel⟩, by decide, Or.inl (by decide), trivial⟩

example : Laid 3 16 [(19, ⟨true, 5, []⟩, [5, 1, 0, 64]), (20, ⟨false, 0, [⟨97, 0, 19⟩]⟩, [197])] :=
  exEmits_laid

theorem exEmits_good : GoodStore (exEmits.map fun e => (e.1, e.2.1)) exDen :=
  goodStore_of_entries rfl (by decide)

theorem exEmits_reach : ∀ e ∈ exEmits, ReachFrom (exEmits.map fun e => (e.1, e.2.1)) 20 e.1 := by
  intro e he
  have : e = (19, ⟨true, 5, []⟩, [5, 1, 0, 64]) ∨ e = (20, ⟨false, 0, [⟨97, 0, 19⟩]⟩, [197]) := by
    simpa [exEmits] using he
  rcases this with rfl | rfl
  · exact ReachFrom.step (n := ⟨false, 0, [⟨97, 0, 19⟩]⟩) (t := ⟨97, 0, 19⟩) (by simp [exEmits])
      (by simp) (ReachFrom.refl _)
  · exact ReachFrom.refl _

example : ∃ nodes, Spec.walk 3 ((List.replicate 16 (0 : UInt8)) ++ exEmits.flatMap (fun e : Nat × BNode × List UInt8 => e.2.2) ++ [1, 2, 3]).toArray
      21 20 [] 0 = some (exDen 20, nodes) ∧ Spec.tiles nodes 20 = true := by
  obtain ⟨nodes, h1, h2⟩ := spec_walk_root 3 exEmits (List.replicate 16 0) [1, 2, 3] exDen
    exEmits_laid exEmits_good 20 (Or.inr ⟨(20, ⟨false, 0, [⟨97, 0, 19⟩]⟩, [197]), by simp [exEmits], rfl⟩) 21 (by decide)
  exact ⟨nodes, h1, spec_tiles 3 exEmits exDen exEmits_laid exEmits_good 20 nodes h2 exEmits_reach
    (fun _ => by decide)⟩

example : Spec.parseFst (u64le 3 ++ u64le 7 ++ [5, 1, 0, 64, 197] ++ u64le 1 ++ u64le 20 ++ u32le 12345)
    = some ⟨3, 7, 1, [([97], 5)], true⟩ := by
  exact spec_parseFst_reach exEmits exDen exEmits_laid exEmits_good 7 1 20 12345
    (by decide) (by decide) (by decide) (Or.inr ⟨(20, ⟨false, 0, [⟨97, 0, 19⟩]⟩, [197]), by simp [exEmits], rfl⟩)
    exEmits_reach

example : ∃ tiled, Spec.parseFst (u64le 3 ++ u64le 7 ++ [5, 1, 0, 64, 197] ++ u64le 1 ++ u64le 20
    ++ u32le 12345) = some ⟨3, 7, 1, [([97], 5)], tiled⟩ := by
  obtain ⟨tiled, h1, _⟩ := spec_parseFst_last exEmits exDen exEmits_laid exEmits_good 7 1 20 12345
    (by decide) (by decide) (by decide) (Or.inr ⟨_, rfl, rfl⟩)
  exact ⟨tiled, h1⟩

end SpecExample

end Fst
