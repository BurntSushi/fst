import FstVerif.Proofs.KeyOrder
/-
What the reading algorithms (`Proofs/Lookup.lean`, `Proofs/Stream.lean`, `Proofs/Seek.lean`,
`Proofs/BoundsStream.lean`) share about a good store seen through a node access:

* `branches d L` — the entries below a list of transitions; `den_split` — what following
  byte `b` from a node does to the node's entries (smaller bytes, the branch on `b`, greater bytes);
* `den_pSorted` — keys spelled from any valid address are strictly increasing;
* `StreamP.NodeRep` / `valid_rep` / `rep_child` — a node of the access layer standing for a
  store node, at the root and after following a transition.

The namespace `Fst.StreamP` holds the notions and helper lemmas of these proofs (here and in the
four files above); the theorems meant for use elsewhere are in `Fst`.
-/
namespace Fst

theorem mem_lift {b : UInt8} {o : Nat} {l : KV} {x : Key × Nat} :
    x ∈ lift b o l ↔ ∃ y ∈ l, x = (b :: y.1, o + y.2) := by
  simp only [lift, List.mem_map]
  constructor
  · rintro ⟨y, hy, rfl⟩; exact ⟨y, hy, rfl⟩
  · rintro ⟨y, hy, rfl⟩; exact ⟨y, hy, rfl⟩

/-- the entries contributed by one transition -/
def br (d : Nat → KV) (t : Tr) : KV := lift t.inp t.out (d t.addr)

/-- the entries below a list of transitions -/
def branches (d : Nat → KV) (L : List Tr) : KV := L.flatMap (br d)

theorem denNodeWith_eq (d : Nat → KV) (n : BNode) :
    denNodeWith d n = own n ++ branches d n.trans := rfl

theorem mem_br {d : Nat → KV} {t : Tr} {x : Key × Nat} :
    x ∈ br d t ↔ ∃ y ∈ d t.addr, x = (t.inp :: y.1, t.out + y.2) := mem_lift

theorem mem_branches {d : Nat → KV} {L : List Tr} {x : Key × Nat} (h : x ∈ branches d L) :
    ∃ t ∈ L, ∃ r, x.1 = t.inp :: r := by
  obtain ⟨t, ht, hx⟩ := List.mem_flatMap.1 h
  obtain ⟨y, _, rfl⟩ := mem_br.1 hx
  exact ⟨t, ht, y.1, rfl⟩

theorem mem_denNodeWith {d : Nat → KV} {n : BNode} {x : Key × Nat} :
    x ∈ denNodeWith d n ↔ (n.fin = true ∧ x = ([], n.fout)) ∨ ∃ t ∈ n.trans, x ∈ br d t := by
  rw [denNodeWith_eq, branches, List.mem_append, List.mem_flatMap]
  unfold own
  cases n.fin <;> simp

theorem den_split (d : Nat → KV) (n : BNode) {i : Nat} (hi : i < n.trans.length) :
    denNodeWith d n = own n ++ (branches d (n.trans.take i) ++
      (br d n.trans[i] ++ branches d (n.trans.drop (i + 1)))) := by
  conv => lhs; rw [denNodeWith_eq, ← List.take_append_drop i n.trans, List.drop_eq_getElem_cons hi]
  simp only [branches, List.flatMap_append, List.flatMap_cons]

/-- what `find_input` found, in terms of the sorted transition list: smaller bytes before,
greater bytes after -/
theorem transIdx_split {n : BNode} (hs : SortedInputs n) {b : UInt8} {i : Nat}
    (h : transIdx n b = some i) :
    ∃ hi : i < n.trans.length, n.trans[i].inp = b ∧
      (∀ t ∈ n.trans.take i, t.inp < b) ∧ (∀ t ∈ n.trans.drop (i + 1), b < t.inp) := by
  obtain ⟨hi, hb, _⟩ := List.findIdx?_eq_some_iff_getElem.1 h
  have hb' : n.trans[i].inp = b := of_decide_eq_true hb  -- `==` on `UInt8` is `decide (_ = _)`
  refine ⟨hi, hb', fun t ht => ?_, fun t ht => ?_⟩
  · obtain ⟨j, hj, rfl⟩ := List.mem_take_iff_getElem.1 ht
    rw [← hb']; exact (List.pairwise_iff_getElem.1 hs) j i (Nat.lt_min.1 hj).2 hi (Nat.lt_min.1 hj).1
  · obtain ⟨j, hj, rfl⟩ := List.mem_drop_iff_getElem.1 ht
    have hj' : i + 1 + j < n.trans.length := by rw [Nat.add_comm]; exact hj
    rw [← hb']; exact (List.pairwise_iff_getElem.1 hs) i (i + 1 + j) hi hj'
      (Nat.lt_add_right j (Nat.lt_succ_self i))

theorem pSorted_lift {b : UInt8} {o : Nat} {l : KV} (h : PSorted l) : PSorted (lift b o l) := by
  unfold PSorted lift
  rw [List.pairwise_map]
  refine h.imp ?_
  intro x y hxy
  simp [lexLt, hxy]

theorem pSorted_denNodeWith {d : Nat → KV} {n : BNode} (hs : SortedInputs n)
    (hd : ∀ t ∈ n.trans, PSorted (d t.addr)) : PSorted (denNodeWith d n) := by
  unfold PSorted
  rw [denNodeWith_eq, branches, List.pairwise_append]
  refine ⟨?_, ?_, ?_⟩
  · unfold own; split <;> simp
  · rw [List.pairwise_flatMap]
    refine ⟨fun t ht => pSorted_lift (hd t ht), ?_⟩
    refine hs.imp ?_
    intro t1 t2 hlt x hx y hy
    obtain ⟨x', _, rfl⟩ := mem_br.1 hx
    obtain ⟨y', _, rfl⟩ := mem_br.1 hy
    simp [lexLt, hlt]
  · intro x hx y hy
    have hx1 : x.1 = [] := by
      unfold own at hx; split at hx
      · simp at hx; simp [hx]
      · simp at hx
    obtain ⟨t, _, r, hy⟩ := mem_branches hy
    simp [hx1, hy, lexLt]

namespace StreamP

/-- an address that can be followed: the empty final node or a node of the store (the theorems other files
use spell the disjunction out) -/
def Valid (s : Store) (a : Nat) : Prop := a = 0 ∨ ∃ n, (a, n) ∈ s

theorem lookup_of_mem {s : Store} {a : Nat} {n : BNode} (hm : (a, n) ∈ s)
    (hf : ∀ m, (a, m) ∈ s → m = n) : s.lookup a = some n := by
  cases h : s.lookup a with
  | none => simpa using List.lookup_eq_none_iff.1 h _ hm
  | some m =>
    obtain ⟨l₁, l₂, rfl, _⟩ := List.lookup_eq_some_iff.1 h
    rw [hf m (by simp)]

variable {N : Type}

/-- everything the proofs use about a node `x` of the access layer standing for
the store node `n` at address `a` -/
structure NodeRep (acc : NodeAccess N) (s : Store) (den : Nat → KV) (x : N) (a : Nat) (n : BNode) :
    Prop where
  node : acc.node a = some x
  addr : acc.addr x = a
  fin : acc.isFinal x = n.fin
  fout : acc.finalOutput x = n.fout
  len : acc.len x = n.trans.length
  trans : ∀ i (h : i < n.trans.length), acc.transition x i = some n.trans[i]
  find : ∀ b, acc.findInput x b = some (transIdx n b)
  den_eq : den a = denNodeWith den n
  sorted : SortedInputs n
  child : ∀ t ∈ n.trans, t.addr < a ∧ Valid s t.addr

/-- the store node behind a `NodeRep`: a node of the store, or the empty final node -/
def InStore (s : Store) (a : Nat) (n : BNode) : Prop := (a = 0 ∧ n.trans = []) ∨ (a, n) ∈ s

variable {acc : NodeAccess N} {s : Store} {den : Nat → KV}

/-- at a valid address there is a represented node; also the `transition_addr` accessor
agrees with it (`contains_key` walks that one) -/
theorem valid_rep_in (hg : GoodStore s den) (hr : Represents acc s) {a : Nat} (hv : Valid s a) :
    ∃ n x, NodeRep acc s den x a n ∧ InStore s a n ∧
      ∀ i (h : i < n.trans.length), acc.transitionAddr x i = some n.trans[i].addr := by
  rcases hv with h0 | ⟨n, hn⟩
  · subst h0
    obtain ⟨x, h1, h2, h3, h4, h5, h6, h7⟩ := hr.node 0 ⟨true, 0, []⟩ (by simp [nodeAt])
    refine ⟨⟨true, 0, []⟩, x, ⟨h1, h2, h3, h4, h5, fun i h => (h6 i h).1, h7, ?_, ?_, ?_⟩,
      Or.inl ⟨rfl, rfl⟩, fun i h => (h6 i h).2⟩
    · rw [hg.den_zero]; simp [denNodeWith, own]
    · simp [SortedInputs]
    · intro t ht; simp at ht
  · have hpos := hg.addr_pos a n hn
    have hl : nodeAt s a = some n := by
      have : a ≠ 0 := by omega
      simp only [nodeAt, this, if_false]
      exact lookup_of_mem hn (fun m hm => hg.functional a m n hm hn)
    obtain ⟨x, h1, h2, h3, h4, h5, h6, h7⟩ := hr.node a n hl
    exact ⟨n, x, ⟨h1, h2, h3, h4, h5, fun i h => (h6 i h).1, h7, hg.unfold a n hn,
      hg.sorted a n hn, fun t ht => hg.acyclic a n hn t ht⟩, Or.inr hn, fun i h => (h6 i h).2⟩

theorem valid_rep (hg : GoodStore s den) (hr : Represents acc s) {a : Nat} (hv : Valid s a) :
    ∃ n x, NodeRep acc s den x a n := by
  obtain ⟨n, x, R, _⟩ := valid_rep_in hg hr hv
  exact ⟨n, x, R⟩

/-- following transition `i` of a represented node leads to a represented node at a smaller
address -/
theorem rep_child (hg : GoodStore s den) (hr : Represents acc s) {x : N} {a : Nat} {n : BNode}
    (R : NodeRep acc s den x a n) {i : Nat} (hi : i < n.trans.length) :
    ∃ n' x', NodeRep acc s den x' n.trans[i].addr n' ∧ InStore s n.trans[i].addr n' ∧
      n.trans[i].addr < a := by
  obtain ⟨hlt, hval⟩ := R.child _ (List.getElem_mem hi)
  obtain ⟨n', x', R', hin, _⟩ := valid_rep_in hg hr hval
  exact ⟨n', x', R', hin, hlt⟩

end StreamP

open StreamP in
theorem den_pSorted {s : Store} {den : Nat → KV} (hg : GoodStore s den) :
    ∀ a, Valid s a → PSorted (den a) := by
  intro a
  induction a using Nat.strongRecOn with
  | _ a ih =>
    intro hv
    rcases hv with rfl | ⟨n, hn⟩
    · rw [hg.den_zero]; exact List.pairwise_singleton _ _
    · rw [hg.unfold a n hn]
      exact pSorted_denNodeWith (hg.sorted a n hn) fun t ht =>
        ih t.addr (hg.acyclic a n hn t ht).1 (hg.acyclic a n hn t ht).2

theorem den_sorted {s : Store} {den : Nat → KV} (hg : GoodStore s den) :
    ∀ a, (a = 0 ∨ ∃ n, (a, n) ∈ s) → SortedKV (den a) :=
  fun a hv => (den_pSorted hg a hv).sortedKV

/-- `GoodStore` for a store given as a list: every clause is a bounded check over its entries,
which evaluation decides for a concrete store and denotation (the example stores) -/
theorem goodStore_of_entries {s : Store} {den : Nat → KV} (h0 : den 0 = [([], 0)])
    (h : ∀ e ∈ s, den e.1 = denNodeWith den e.2 ∧ 0 < e.1 ∧ (∀ e' ∈ s, e'.1 = e.1 → e'.2 = e.2) ∧
      (∀ t ∈ e.2.trans, t.addr < e.1 ∧ (t.addr = 0 ∨ ∃ e' ∈ s, e'.1 = t.addr)) ∧
      e.2.trans.Pairwise fun a b => a.inp < b.inp) : GoodStore s den where
  den_zero := h0
  unfold a n hm := (h _ hm).1
  addr_pos a n hm := (h _ hm).2.1
  functional a n m hn hm := ((h _ hn).2.2.1 _ hm rfl).symm
  acyclic a n hm t ht := by
    obtain ⟨hlt, h⟩ := (h _ hm).2.2.2.1 t ht
    exact ⟨hlt, h.imp id fun ⟨e', he', h⟩ => ⟨e'.2, by rw [← h]; exact he'⟩⟩
  sorted a n hm := (h _ hm).2.2.2.2

end Fst
