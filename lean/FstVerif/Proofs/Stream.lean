import FstVerif.Proofs.Store
import FstVerif.Proofs.StreamStep
import FstVerif.Proofs.Aut
/-
The explicit-stack stream of the model (`streamNew`, `streamStep`,
`streamCollect`) yields exactly the in-range, automaton-accepted entries of the
store denotation, in order, and then ends.

This file holds the machine part (frames, pruning, upper bound) on top of the step
equations and `Runs` of `Proofs/StreamStep.lean` and the node view of `Proofs/Store.lean`; the
lower bound (`seek_min`) is in `Proofs/Seek.lean`, which also states the main theorem
`stream_correct` in full. Helper lemmas live in the namespace `Fst.StreamP`.
-/
namespace Fst

/-- specification of a range's lower bound (the code has no such test: `seek_min` positions the
stack instead) -/
def lowerOK (min : Bound) (k : Key) : Bool :=
  match min with
  | .unbounded => true
  | .included b => !lexLt k b
  | .excluded b => lexLt b k

/-- specification of a range's upper bound: `Bound::exceeded_by`, negated -/
def upperOK (max : Bound) (k : Key) : Bool := !max.exceededBy k

theorem filter_unbounded (l : KV) :
    (l.filter fun kv => lowerOK .unbounded kv.1 && upperOK .unbounded kv.1) = l :=
  List.filter_eq_self.2 fun _ _ => rfl

namespace StreamP

theorem lexLt_irrefl (a : Key) : lexLt a a = false := Fst.lexLt_irrefl a

/-- `exceeded_by` is upward closed -/
theorem exceeded_mono (e : Bound) (q k : Key) (h : e.exceededBy q = true) (hlt : lexLt q k = true) :
    e.exceededBy k = true := by
  cases e with
  | unbounded => simp [Bound.exceededBy] at h
  | included v =>
    simp only [Bound.exceededBy] at *
    exact lexLt_trans h hlt
  | excluded v =>
    simp only [Bound.exceededBy, Bool.not_eq_eq_eq_not, Bool.not_true] at *
    cases hkv : lexLt k v with
    | false => rfl
    | true => rw [lexLt_trans hlt hkv] at h; exact absurd h (by simp)

theorem exceeded_ext (e : Bound) (q r : Key) (h : e.exceededBy q = true) :
    e.exceededBy (q ++ r) = true := by
  cases r with
  | nil => simpa using h
  | cons b r => exact exceeded_mono e q _ h (by rw [lexLt_self_append]; rfl)

variable {N σ : Type}

/-- the entries below transitions `i, i+1, …` of a node, relative to the node -/
def contRel (den : Nat → KV) (n : BNode) (i : Nat) : KV := branches den (n.trans.drop i)

/-- entries relative to a node reached with path `p` and output `o`, made absolute -/
def pre (p : Key) (o : Nat) (l : KV) : KV := l.map fun kv => (p ++ kv.1, o + kv.2)

/-- what the machine lets through: not beyond the upper bound and accepted -/
def good (A : Aut σ) (e : Bound) (k : Key) : Bool := !e.exceededBy k && A.accepts k

/-- the items the stream returns for a list of entries: the right-hand side of every `Runs`
statement below -/
def F (A : Aut σ) (e : Bound) (l : KV) : List (Key × Nat × σ) :=
  (l.filter fun kv => good A e kv.1).map fun kv => (kv.1, kv.2, A.run A.start kv.1)

theorem F_append (A : Aut σ) (e : Bound) (l1 l2 : KV) : F A e (l1 ++ l2) = F A e l1 ++ F A e l2 := by
  simp [F]

theorem F_nil_of (A : Aut σ) (e : Bound) (l : KV) (h : ∀ kv ∈ l, good A e kv.1 = false) :
    F A e l = [] := by
  simp only [F, List.map_eq_nil_iff, List.filter_eq_nil_iff]
  intro kv hkv; simp [h kv hkv]

theorem pre_lift (p : Key) (o : Nat) (b : UInt8) (o' : Nat) (l : KV) :
    pre p o (lift b o' l) = pre (p ++ [b]) (o + o') l := by
  simp [pre, lift, Function.comp_def, Nat.add_assoc]

theorem pre_append (p : Key) (o : Nat) (l1 l2 : KV) : pre p o (l1 ++ l2) = pre p o l1 ++ pre p o l2 := by
  simp [pre]

theorem pre_nil_zero (l : KV) : pre [] 0 l = l := by
  simp [pre]

theorem mem_pre {p : Key} {o : Nat} {l : KV} {kv : Key × Nat} (h : kv ∈ pre p o l) :
    ∃ kv' ∈ l, kv.1 = p ++ kv'.1 := by
  simp only [pre, List.mem_map] at h
  obtain ⟨kv', h1, h2⟩ := h
  exact ⟨kv', h1, by rw [← h2]⟩

theorem contRel_cons (den : Nat → KV) (n : BNode) (i : Nat) (hi : i < n.trans.length) :
    contRel den n i =
      lift n.trans[i].inp n.trans[i].out (den n.trans[i].addr) ++ contRel den n (i + 1) := by
  simp only [contRel, branches, br, List.drop_eq_getElem_cons hi, List.flatMap_cons]

theorem contRel_nil (den : Nat → KV) (n : BNode) (i : Nat) (hi : n.trans.length ≤ i) :
    contRel den n i = [] := by
  simp [contRel, branches, List.drop_eq_nil_of_le hi]

theorem denNodeWith_contRel (den : Nat → KV) (n : BNode) : denNodeWith den n = own n ++ contRel den n 0 := rfl

theorem mem_contRel_succ {den : Nat → KV} {n : BNode} (hs : SortedInputs n) {i : Nat}
    (hi : i < n.trans.length) {kv : Key × Nat} (h : kv ∈ contRel den n (i + 1)) :
    ∃ b' r, kv.1 = b' :: r ∧ n.trans[i].inp < b' := by
  obtain ⟨t, ht, r, hkv⟩ := mem_branches h
  obtain ⟨j, hj, rfl⟩ := List.mem_drop_iff_getElem.1 ht
  exact ⟨_, r, hkv, (List.pairwise_iff_getElem.1 hs) i (i + 1 + j) hi (by omega) (by omega)⟩

/-- once a path extending `p` exceeds the upper bound, nothing of `X` is left -/
def Closed {α : Type} (e : Bound) (p : Key) (X : List α) : Prop :=
  ∀ q, e.exceededBy (p ++ q) = true → X = []

theorem closed_nil {α : Type} (e : Bound) (p : Key) : Closed e p ([] : List α) := fun _ _ => rfl

/-- the hypotheses of the stream theorems, bundled: store, and the automaton contract (no hook;
`canMatch = false` is final, asked only of states reachable from the start state) -/
structure Ctx (acc : NodeAccess N) (A : Aut σ) (s : Store) (den : Nat → KV) : Prop where
  hg : GoodStore s den
  hr : Represents acc s
  hEof : ∀ x, A.acceptEof x = none
  hCan : ∀ p, A.canMatch (A.run A.start p) = false → ∀ w, A.isMatch (A.run (A.run A.start p) w) = false

/-- how the path of the frame below relates to the path `p` of a frame at address `a` -/
def RestPath (root a : Nat) (p p' : Key) : Prop :=
  (a = root ∧ p' = p) ∨ (a ≠ root ∧ ∃ b, p = p' ++ [b])

theorem step_pop_path (acc : NodeAccess N) (A : Aut σ) (root : Nat) (e : Bound)
    (f : Frame N σ) (rest : List (Frame N σ)) (p p' : Key)
    (h : acc.len f.node ≤ f.trans ∨ A.canMatch f.autState = false)
    (hp : RestPath root (acc.addr f.node) p p') :
    streamStep acc A root ⟨p, none, f :: rest, e⟩ = .cont ⟨p', none, rest, e⟩ := by
  rw [step_pop acc A root p f rest e h]
  rcases hp with ⟨h1, h2⟩ | ⟨h1, b, h2⟩
  · simp [h1, h2]
  · subst h2
    simp [h1]

theorem F_pruned {A : Aut σ}
    (hCan : ∀ p, A.canMatch (A.run A.start p) = false → ∀ w, A.isMatch (A.run (A.run A.start p) w) = false)
    (e : Bound) (p : Key) (o : Nat) (l : KV) (h : A.canMatch (A.run A.start p) = false) :
    F A e (pre p o l) = [] := by
  apply F_nil_of
  intro kv hkv
  obtain ⟨kv', _, hk⟩ := mem_pre hkv
  simp [good, hk, Aut.accepts, run_append, hCan p h]

theorem F_exceeded_ext (A : Aut σ) (e : Bound) (p : Key) (o : Nat) (l : KV)
    (h : e.exceededBy p = true) : F A e (pre p o l) = [] := by
  apply F_nil_of
  intro kv hkv
  obtain ⟨kv', _, hk⟩ := mem_pre hkv
  simp [good, hk, exceeded_ext e p kv'.1 h]

theorem F_exceeded_later (A : Aut σ) (e : Bound) (den : Nat → KV) (n : BNode) (hs : SortedInputs n)
    (i : Nat) (hi : i < n.trans.length) (p q : Key) (o : Nat)
    (h : e.exceededBy (p ++ n.trans[i].inp :: q) = true) :
    F A e (pre p o (contRel den n (i + 1))) = [] := by
  apply F_nil_of
  intro kv hkv
  obtain ⟨kv', hkv', hk⟩ := mem_pre hkv
  obtain ⟨b', r, hk', hlt⟩ := mem_contRel_succ hs hi hkv'
  have := exceeded_mono e _ (p ++ b' :: r) h (lexLt_sibling p q r hlt)
  simp [good, hk, hk', this]

theorem closed_step (A : Aut σ) (e : Bound) (den : Nat → KV) (n : BNode) (hs : SortedInputs n)
    (i : Nat) (hi : i < n.trans.length) (p : Key) (o : Nat) (X : List (Key × Nat × σ))
    (hX : Closed e p X) :
    Closed e (p ++ [n.trans[i].inp]) (F A e (pre p o (contRel den n (i + 1))) ++ X) := by
  intro q hq
  rw [List.append_assoc] at hq
  rw [F_exceeded_later A e den n hs i hi p q o hq, hX _ hq]
  rfl

theorem F_own (A : Aut σ) (e : Bound) (p : Key) (o : Nat) (n : BNode) :
    F A e (pre p o (own n)) =
      if n.fin && good A e p then [(p, o + n.fout, A.run A.start p)] else [] := by
  cases hf : n.fin <;> cases hgd : good A e p <;> simp [F, pre, own, hf, hgd]

/-- the work of one frame: explicit stack = recursive denotation, with pruning, the upper
bound and the continuation `X` of the rest of the stack -/
theorem run_frame {acc : NodeAccess N} {A : Aut σ} {s : Store} {den : Nat → KV}
    (C : Ctx acc A s den) (root : Nat) (e : Bound) :
    ∀ a, a ≤ root → ∀ k i n x, NodeRep acc s den x a n → n.trans.length = i + k →
      ∀ o p p' rest X, RestPath root a p p' → Runs acc A root ⟨p', none, rest, e⟩ X → Closed e p X →
        Runs acc A root ⟨p, none, ⟨x, i, o, A.run A.start p⟩ :: rest, e⟩
          (F A e (pre p o (contRel den n i)) ++ X) := by
  intro a
  induction a using Nat.strongRecOn with
  | _ a iha =>
    intro hle k
    induction k with
    | zero =>
      intro i n x R hlen o p p' rest X hp hrest _
      rw [contRel_nil den n i (by omega)]
      refine Runs.cont ?_ hrest
      exact step_pop_path acc A root e ⟨x, i, o, _⟩ rest p p'
        (Or.inl (show acc.len x ≤ i by rw [R.len]; omega))
        (show RestPath root (acc.addr x) p p' by rw [R.addr]; exact hp)
    | succ k ihk =>
      intro i n x R hlen o p p' rest X hp hrest hcl
      cases hcan : A.canMatch (A.run A.start p) with
      | false =>
        rw [F_pruned C.hCan e p o _ hcan]
        refine Runs.cont ?_ hrest
        exact step_pop_path acc A root e ⟨x, i, o, _⟩ rest p p' (Or.inr hcan)
          (show RestPath root (acc.addr x) p p' by rw [R.addr]; exact hp)
      | true =>
        have hi : i < n.trans.length := by omega
        obtain ⟨hlt, hval⟩ := R.child _ (List.getElem_mem hi)
        obtain ⟨n', x', R'⟩ := valid_rep C.hg C.hr hval
        -- the frame after the child returns, then the child frame
        have h2 := ihk (i + 1) n x R (by omega) o p p' rest X hp hrest hcl
        have h1 := iha _ hlt (by omega) n'.trans.length 0 n' x' R' (by omega)
          (o + n.trans[i].out) (p ++ [n.trans[i].inp]) p (⟨x, i + 1, o, A.run A.start p⟩ :: rest)
          _ (Or.inr ⟨by omega, _, rfl⟩) h2 (closed_step A e den n R.sorted i hi p o X hcl)
        have hstep := step_descend acc A root p ⟨x, i, o, A.run A.start p⟩ rest e
          (by rw [R.len]; exact hi) hcan
        simp only [R.trans i hi, R'.node, descend, Aut.eofMatch_eq C.hEof, ← run_snoc,
          R'.fin, R'.fout] at hstep
        rw [contRel_cons den n i hi, pre_append, F_append, pre_lift, R'.den_eq, denNodeWith_contRel,
          pre_append, F_append, F_own, List.append_assoc, List.append_assoc]
        simp only [good, Aut.accepts]
        by_cases hex : e.exceededBy (p ++ [n.trans[i].inp]) = true
        · rw [hex, if_pos rfl] at hstep
          rw [hcl _ hex, F_exceeded_later A e den n R.sorted i hi p [] o hex,
            F_exceeded_ext A e _ _ (contRel den n' 0) hex]
          simpa [hex] using Runs.done hstep
        · rw [Bool.not_eq_true] at hex
          rw [hex, if_neg Bool.false_ne_true] at hstep
          rw [← List.append_assoc (F A e (pre _ _ (contRel den n' 0)))]
          by_cases hfm : (n'.fin && A.isMatch (A.run A.start (p ++ [n.trans[i].inp]))) = true
          · rw [hfm, if_pos rfl] at hstep
            simpa [hex, hfm] using Runs.emit hstep h1
          · rw [Bool.not_eq_true] at hfm
            rw [hfm, if_neg Bool.false_ne_true] at hstep
            simpa [hex, hfm] using Runs.cont hstep h1

theorem run_root {acc : NodeAccess N} {A : Aut σ} {s : Store} {den : Nat → KV}
    (C : Ctx acc A s den) (root : Nat) (e : Bound) (nr : BNode) (r : N)
    (R : NodeRep acc s den r root nr) :
    Runs acc A root ⟨[], none, [⟨r, 0, 0, A.start⟩], e⟩ (F A e (contRel den nr 0)) := by
  have h := run_frame C root e root (Nat.le_refl _) nr.trans.length 0 nr r R (by omega) 0 [] [] [] []
    (Or.inl ⟨rfl, rfl⟩) (Runs.done (step_nil acc A root [] e)) (closed_nil e [])
  rw [pre_nil_zero, List.append_nil] at h
  exact h

/-- the `empty_output` prologue of `next_with` -/
theorem run_emptyOutput (acc : NodeAccess N) (A : Aut σ) (root : Nat) (e : Bound) (v : Nat)
    (stack : List (Frame N σ)) (X : List (Key × Nat × σ))
    (h : Runs acc A root ⟨[], none, stack, e⟩ X) (hc : e.exceededBy [] = true → X = []) :
    Runs acc A root ⟨[], some v, stack, e⟩ (F A e [([], v)] ++ X) := by
  have hstep := step_empty acc A root [] v stack e
  by_cases hex : e.exceededBy [] = true
  · rw [if_pos hex] at hstep
    simpa [F, good, hex, hc hex] using Runs.done hstep
  · rw [if_neg hex] at hstep
    rw [Bool.not_eq_true] at hex
    by_cases hm : A.isMatch A.start = true
    · rw [if_pos hm] at hstep
      simpa [F, good, hex, Aut.accepts, Aut.run, hm] using Runs.emit hstep h
    · rw [if_neg hm] at hstep
      rw [Bool.not_eq_true] at hm
      simpa [F, good, hex, Aut.accepts, Aut.run, hm] using Runs.cont hstep h

/-- the form of the result used in the main theorems -/
theorem final_form (A : Aut σ) (min max : Bound) (l : KV) :
    ((l.filter fun kv => lowerOK min kv.1 && upperOK max kv.1 && A.accepts kv.1).map
        fun kv => (kv.1, kv.2, A.run A.start kv.1)) =
      F A max (l.filter fun kv => lowerOK min kv.1) := by
  simp only [F, List.filter_filter, good, upperOK]
  congr 1
  apply List.filter_congr
  intro kv _
  cases lowerOK min kv.1 <;> simp

/-- lower bound `b` (inclusive or exclusive) on a key, relative to a node -/
def lowK (incl : Bool) (b k : Key) : Bool := if incl then !lexLt k b else lexLt b k

open Bounds in
theorem lowerOK_eq (min : Bound) : lowerOK min = lowK min.isInclusive (Bound.key min) := by
  cases min with
  | unbounded => funext k; simp [lowerOK, lowK, Bound.isInclusive, Bound.key, lexLt_nil_right]
  | included b => rfl
  | excluded b => rfl

theorem lowK_nil (incl : Bool) (k : Key) : lowK incl [] k = (incl || !k.isEmpty) := by
  cases incl <;> simp [lowK, lexLt_nil_right, lexLt_nil_left]

/-- an empty lower bound keeps everything, except the empty key if exclusive -/
theorem filter_lowK_nil (den : Nat → KV) (n : BNode) (incl : Bool) :
    ((denNodeWith den n).filter fun kv => lowK incl [] kv.1) =
      (if incl then own n else []) ++ contRel den n 0 := by
  simp only [denNodeWith_contRel, List.filter_append, lowK_nil]
  congr 1
  · cases incl <;> cases hf : n.fin <;> simp [own, hf]
  · rw [List.filter_eq_self]
    intro kv hkv
    obtain ⟨t, _, r, hk⟩ := mem_branches hkv
    simp [hk]

end StreamP

open StreamP

variable {N σ : Type}

/-- With an empty lower bound (`Unbounded`, `Included []`, `Excluded []`), any
upper bound and any automaton obeying the contract (the `canMatch` hint is only required to
be sound in states reachable from the start state): the stream never panics and yields
exactly the in-range accepted entries of `den root`, in the order of `den root`, with the
automaton state reached after each key, and then ends. -/
theorem stream_correct_emptymin {acc : NodeAccess N} {A : Aut σ} {s : Store} {den : Nat → KV}
    (hg : GoodStore s den) (hr : Represents acc s) (root : Nat)
    (hroot : root = 0 ∨ ∃ n, (root, n) ∈ s)
    (hEof : ∀ x, A.acceptEof x = none)
    (hCan : ∀ p, A.canMatch (A.run A.start p) = false →
      ∀ w, A.isMatch (A.run (A.run A.start p) w) = false)
    (min max : Bound) (hmin : min.isEmpty = true) :
    ∃ s0, streamNew acc A root min max = some s0 ∧
    ∃ N, ∀ fuel, N ≤ fuel →
      streamCollect acc A root fuel s0 [] =
        some (((den root).filter fun kv =>
                lowerOK min kv.1 && upperOK max kv.1 && A.accepts kv.1).map
                fun kv => (kv.1, kv.2, A.run A.start kv.1)) := by
  obtain ⟨nr, r, R⟩ := valid_rep hg hr (show Valid s root from hroot)
  have hroot_run := run_root ⟨hg, hr, hEof, hCan⟩ root max nr r R
  rw [final_form, R.den_eq, lowerOK_eq, key_nil min hmin, filter_lowK_nil,
    streamNew_empty acc A root min max hmin r R.node, R.fin, R.fout]
  refine ⟨_, rfl, Runs.fuel ?_⟩
  cases hincl : min.isInclusive with
  | false => simpa using hroot_run
  | true =>
    cases hf : nr.fin with
    | false => simpa [own, hf] using hroot_run
    | true =>
      have hcl : max.exceededBy [] = true → F A max (contRel den nr 0) = [] := by
        intro hq
        have := F_exceeded_ext A max [] 0 (contRel den nr 0) hq
        rwa [pre_nil_zero] at this
      have h := run_emptyOutput acc A root max nr.fout _ _ hroot_run hcl
      rw [← F_append] at h
      simpa [own, hf] using h

theorem stream_correct_nomin {acc : NodeAccess N} {A : Aut σ} {s : Store} {den : Nat → KV}
    (hg : GoodStore s den) (hr : Represents acc s) (root : Nat)
    (hroot : root = 0 ∨ ∃ n, (root, n) ∈ s)
    (hEof : ∀ x, A.acceptEof x = none)
    (hCan : ∀ x, A.canMatch x = false → ∀ w, A.isMatch (A.run x w) = false)
    (max : Bound) :
    ∃ s0, streamNew acc A root .unbounded max = some s0 ∧
    ∃ N, ∀ fuel, N ≤ fuel →
      streamCollect acc A root fuel s0 [] =
        some (((den root).filter fun kv => upperOK max kv.1 && A.accepts kv.1).map
                fun kv => (kv.1, kv.2, A.run A.start kv.1)) := by
  have := stream_correct_emptymin hg hr root hroot hEof (fun p => hCan _) .unbounded max rfl
  simpa only [lowerOK, Bool.true_and] using this

theorem autAlways_contract :
    (∀ x, autAlways.acceptEof x = none) ∧
    (∀ x, autAlways.canMatch x = false → ∀ w, autAlways.isMatch (autAlways.run x w) = false) :=
  ⟨fun _ => rfl, C18_hints_always.1⟩

namespace StreamExample

/-- the trivial node access of a store -/
def storeAccess (s : Store) : NodeAccess (Nat × BNode) where
  node := fun a => (nodeAt s a).map fun n => (a, n)
  addr := fun x => x.1
  isFinal := fun x => x.2.fin
  finalOutput := fun x => x.2.fout
  len := fun x => x.2.trans.length
  transition := fun x i => x.2.trans[i]?
  transitionAddr := fun x i => x.2.trans[i]?.map (·.addr)
  findInput := fun x b => some (transIdx x.2 b)

theorem storeAccess_represents (s : Store) : Represents (storeAccess s) s := by
  refine ⟨fun a n h => ⟨(a, n), ?_, rfl, rfl, rfl, rfl, ?_, fun _ => rfl⟩⟩
  · simp [storeAccess, h]
  · intro i hi
    simp [storeAccess, hi]

/-- keys `a ↦ 1`, `ab ↦ 2`, `b ↦ 3`; root at address 5 -/
def exStore : Store :=
  [(2, ⟨true, 0, [⟨98, 1, 0⟩]⟩), (5, ⟨false, 0, [⟨97, 1, 2⟩, ⟨98, 3, 0⟩]⟩)]

def exDen (a : Nat) : KV :=
  if a = 0 then [([], 0)]
  else if a = 2 then [([], 0), ([98], 1)]
  else if a = 5 then [([97], 1), ([97, 98], 2), ([98], 3)]
  else []

theorem exGood : GoodStore exStore exDen := goodStore_of_entries rfl (by decide)

theorem exRoot : (5 : Nat) = 0 ∨ ∃ n, (5, n) ∈ exStore :=
  Or.inr ⟨⟨false, 0, [⟨97, 1, 2⟩, ⟨98, 3, 0⟩]⟩, by decide⟩

example : ∃ s0, streamNew (storeAccess exStore) autAlways 5 .unbounded (.included [97, 98]) = some s0 ∧
    ∃ N, ∀ fuel, N ≤ fuel →
      streamCollect (storeAccess exStore) autAlways 5 fuel s0 [] =
        some [([97], 1, ()), ([97, 98], 2, ())] :=
  stream_correct_nomin exGood (storeAccess_represents exStore) 5 exRoot
    autAlways_contract.1 autAlways_contract.2 (.included [97, 98])

end StreamExample

end Fst
