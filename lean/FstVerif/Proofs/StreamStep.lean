import FstVerif.Model.Stream
/-
What the stream machine of `Model/Stream.lean` does, without any store: the equations of one
`streamStep` (one per case, for any automaton), what a drained stream leaves behind, the
relation `Runs` with its three step rules, and the two equations of `streamNew`.
Helper lemmas live in the namespace `Fst.StreamP`.
-/
namespace Fst

variable {N σ : Type}

/-- is_match as `next_with` evaluates it on a NON-EMPTY key's state: through the accept_eof hook if it fires -/
def Aut.eofMatch {σ} (A : Aut σ) (x : σ) : Bool :=
  match A.acceptEof x with | some e => A.isMatch e | none => A.isMatch x

theorem Aut.eofMatch_eq {A : Aut σ} (hEof : ∀ x, A.acceptEof x = none) (x : σ) :
    A.eofMatch x = A.isMatch x := by
  simp [Aut.eofMatch, hEof]

namespace Bounds

/-- the lower-bound key of a range (`[]` if there is none) -/
def Bound.key : Bound → Key
  | .included k => k
  | .excluded k => k
  | .unbounded => []

end Bounds

namespace StreamP
open Bounds

/-- the `empty_output` prologue -/
theorem step_empty (acc : NodeAccess N) (A : Aut σ) (root : Nat) (inp : Key) (v : Nat)
    (stack : List (Frame N σ)) (e : Bound) :
    streamStep acc A root ⟨inp, some v, stack, e⟩ =
      if e.exceededBy [] then .done ⟨inp, none, [], e⟩
      else if A.isMatch A.start then .emit [] v A.start ⟨inp, none, stack, e⟩
      else .cont ⟨inp, none, stack, e⟩ := rfl

theorem step_nil (acc : NodeAccess N) (A : Aut σ) (root : Nat) (inp : Key) (e : Bound) :
    streamStep acc A root ⟨inp, none, [], e⟩ = .done ⟨inp, none, [], e⟩ := rfl

/-- the top frame is exhausted or pruned: pop it -/
theorem step_pop (acc : NodeAccess N) (A : Aut σ) (root : Nat) (inp : Key) (f : Frame N σ)
    (rest : List (Frame N σ)) (e : Bound)
    (h : acc.len f.node ≤ f.trans ∨ A.canMatch f.autState = false) :
    streamStep acc A root ⟨inp, none, f :: rest, e⟩ =
      if acc.addr f.node ≠ root then
        if inp.isEmpty then .panic else .cont ⟨inp.dropLast, none, rest, e⟩
      else .cont ⟨inp, none, rest, e⟩ := by
  have hc : (decide (f.trans ≥ acc.len f.node) || !A.canMatch f.autState) = true := by
    rcases h with h | h
    · simp [h]
    · simp [h]
  simp only [streamStep, hc, if_true]

/-- what `next_with` does with the node `nn` that transition `t` of the top frame leads to. The
Rust code consults `accept_eof` only `if next_node.is_final()`; `eofMatch` consults it always,
which is the same here because its result is only used under `acc.isFinal nn &&`. -/
def descend (acc : NodeAccess N) (A : Aut σ) (inp : Key) (f : Frame N σ) (rest : List (Frame N σ))
    (e : Bound) (t : Tr) (nn : N) : StepRes N σ :=
  let st := A.accept f.autState t.inp
  let s' : SState N σ :=
    ⟨inp ++ [t.inp], none, ⟨nn, 0, f.out + t.out, st⟩ :: { f with trans := f.trans + 1 } :: rest, e⟩
  if e.exceededBy (inp ++ [t.inp]) then .done ⟨inp ++ [t.inp], none, [], e⟩
  else if acc.isFinal nn && A.eofMatch st then
    .emit (inp ++ [t.inp]) (f.out + t.out + acc.finalOutput nn) st s'
  else .cont s'

/-- the top frame has a transition left and may still match: follow it -/
theorem step_descend (acc : NodeAccess N) (A : Aut σ) (root : Nat) (inp : Key) (f : Frame N σ)
    (rest : List (Frame N σ)) (e : Bound)
    (hi : f.trans < acc.len f.node) (hc : A.canMatch f.autState = true) :
    streamStep acc A root ⟨inp, none, f :: rest, e⟩ =
      match acc.transition f.node f.trans with
      | none => .panic
      | some t =>
        match acc.node t.addr with
        | none => .panic
        | some nn => descend acc A inp f rest e t nn := by
  have hc' : (decide (f.trans ≥ acc.len f.node) || !A.canMatch f.autState) = false := by
    simp [hc]; omega
  simp only [streamStep, hc', Bool.false_eq_true, if_false]
  cases acc.transition f.node f.trans with
  | none => rfl
  | some t =>
    simp only
    cases acc.node t.addr with
    | none => rfl
    | some nn =>
      simp only [descend]
      cases acc.isFinal nn with
      | false => simp
      | true => rfl

/-- every non-empty stack is in one of the two cases above -/
theorem step_total (acc : NodeAccess N) (A : Aut σ) (f : Frame N σ) :
    (acc.len f.node ≤ f.trans ∨ A.canMatch f.autState = false) ∨
      (f.trans < acc.len f.node ∧ A.canMatch f.autState = true) := by
  cases A.canMatch f.autState with
  | false => exact Or.inl (Or.inr rfl)
  | true =>
    rcases Nat.lt_or_ge f.trans (acc.len f.node) with h | h
    · exact Or.inr ⟨h, rfl⟩
    · exact Or.inl (Or.inl h)

end StreamP

open StreamP

theorem done_state (acc : NodeAccess N) (A : Aut σ) (root : Nat) (s s' : SState N σ)
    (h : streamStep acc A root s = .done s') : s'.stack = [] ∧ s'.emptyOutput = none := by
  obtain ⟨inp, eo, stack, e⟩ := s
  cases eo with
  | some v =>
    rw [step_empty] at h
    split at h
    · cases h; exact ⟨rfl, rfl⟩
    · split at h <;> cases h
  | none =>
    cases stack with
    | nil => rw [step_nil] at h; cases h; exact ⟨rfl, rfl⟩
    | cons f rest =>
      rcases step_total acc A f with hp | ⟨hi, hc⟩
      · rw [step_pop acc A root inp f rest e hp] at h
        split at h
        · split at h <;> cases h
        · cases h
      · rw [step_descend acc A root inp f rest e hi hc] at h
        split at h
        · cases h
        · split at h
          · cases h
          · simp only [descend] at h
            split at h
            · cases h; exact ⟨rfl, rfl⟩
            · split at h <;> cases h

theorem next_after_done (acc : NodeAccess N) (A : Aut σ) (root : Nat) (s' : SState N σ)
    (h : s'.stack = [] ∧ s'.emptyOutput = none) (fuel : Nat) :
    streamNext acc A root (fuel + 1) s' = some (none, s') := by
  obtain ⟨inp, eo, stack, e⟩ := s'
  obtain ⟨h1, h2⟩ := h
  simp only at h1 h2
  subst h1; subst h2
  simp [streamNext, streamStep]

/-- drain a stream like `streamCollect`, also returning the state left behind -/
def streamDrain (acc : NodeAccess N) (A : Aut σ) (root : Nat) :
    Nat → SState N σ → List (Key × Nat × σ) → Option (List (Key × Nat × σ) × SState N σ)
  | 0, _, _ => none
  | fuel+1, s, accum =>
    match streamStep acc A root s with
    | .panic => none
    | .done s' => some (accum.reverse, s')
    | .emit k v st s' => streamDrain acc A root fuel s' ((k, v, st) :: accum)
    | .cont s' => streamDrain acc A root fuel s' accum

/-- whatever `streamCollect` returns, `streamDrain` returns too, and the state it leaves stays
done — for any automaton and any node access -/
theorem drain_of_collect (acc : NodeAccess N) (A : Aut σ) (root : Nat) :
    ∀ fuel s accum L, streamCollect acc A root fuel s accum = some L →
      ∃ sEnd, streamDrain acc A root fuel s accum = some (L, sEnd) ∧
        ∀ fuel', streamNext acc A root (fuel' + 1) sEnd = some (none, sEnd) := by
  intro fuel
  induction fuel with
  | zero => intro s accum L h; cases h
  | succ fuel ih =>
    intro s accum L h
    simp only [streamCollect, streamDrain] at h ⊢
    cases hs : streamStep acc A root s with
    | panic => rw [hs] at h; cases h
    | done s' =>
      rw [hs] at h
      cases h
      exact ⟨s', rfl, next_after_done acc A root s' (done_state acc A root s s' hs)⟩
    | emit k v st s' => rw [hs] at h; exact ih _ _ _ h
    | cont s' => rw [hs] at h; exact ih _ _ _ h

/-- "fused": a stream object polled again after the end keeps
returning `None`; a statement about the collected stream gives this about the drained one -/
theorem fused_of_correct {acc : NodeAccess N} {A : Aut σ} {root : Nat} {min max : Bound}
    {L : List (Key × Nat × σ)}
    (h : ∃ s0, streamNew acc A root min max = some s0 ∧ ∃ M, ∀ fuel, M ≤ fuel →
      streamCollect acc A root fuel s0 [] = some L) :
    ∃ s0, streamNew acc A root min max = some s0 ∧ ∃ M, ∀ fuel, M ≤ fuel → ∃ sEnd,
      streamDrain acc A root fuel s0 [] = some (L, sEnd) ∧
      ∀ fuel', streamNext acc A root (fuel' + 1) sEnd = some (none, sEnd) := by
  obtain ⟨s0, h0, M, hM⟩ := h
  exact ⟨s0, h0, M, fun fuel hf => drain_of_collect acc A root fuel s0 [] L (hM fuel hf)⟩

namespace StreamP
open Bounds

/-- from state `s` the stream returns exactly `X` and ends (given enough fuel, and whatever
was collected before) -/
def Runs (acc : NodeAccess N) (A : Aut σ) (root : Nat) (s : SState N σ)
    (X : List (Key × Nat × σ)) : Prop :=
  ∃ M, ∀ m accum, streamCollect acc A root (M + m) s accum = some (accum.reverse ++ X)

section
variable {acc : NodeAccess N} {A : Aut σ} {root : Nat} {s s' : SState N σ}
  {X : List (Key × Nat × σ)}

theorem Runs.done (h : streamStep acc A root s = .done s') : Runs acc A root s [] :=
  ⟨1, fun m accum => by rw [Nat.add_comm]; simp [streamCollect, h]⟩

theorem Runs.cont (h : streamStep acc A root s = .cont s') (hr : Runs acc A root s' X) :
    Runs acc A root s X := by
  obtain ⟨M, hM⟩ := hr
  refine ⟨M + 1, fun m accum => ?_⟩
  rw [Nat.add_right_comm, streamCollect, h]
  exact hM m accum

theorem Runs.emit {k : Key} {v : Nat} {st : σ} (h : streamStep acc A root s = .emit k v st s')
    (hr : Runs acc A root s' X) : Runs acc A root s ((k, v, st) :: X) := by
  obtain ⟨M, hM⟩ := hr
  refine ⟨M + 1, fun m accum => ?_⟩
  rw [Nat.add_right_comm, streamCollect, h]
  simp only [hM m, List.reverse_cons, List.append_assoc, List.singleton_append]

/-- the form of the main theorems: every amount of fuel from some bound on -/
theorem Runs.fuel (h : Runs acc A root s X) :
    ∃ N, ∀ fuel, N ≤ fuel → streamCollect acc A root fuel s [] = some X := by
  obtain ⟨M, hM⟩ := h
  refine ⟨M, fun fuel hf => ?_⟩
  obtain ⟨m, rfl⟩ := Nat.exists_eq_add_of_le hf
  simpa using hM m []

end

/-- the part of `streamNew` after the `for` loop of `seek_min` -/
def seekFinish (acc : NodeAccess N) (inclusive : Bool) (max : Bound) :
    Key × List (Frame N σ) × Option (N × Nat × σ) → Option (SState N σ)
  | (inp, stack, none) => some { inp, emptyOutput := none, stack, endAt := max }
  | (inp, stack, some (_, out, st)) =>
    match stack with
    | [] => some { inp, emptyOutput := none, stack, endAt := max }
    | top :: rest =>
      if inclusive then
        if top.trans = 0 then none else
        some { inp := inp.dropLast, emptyOutput := none,
               stack := { top with trans := top.trans - 1 } :: rest, endAt := max }
      else
        if top.trans = 0 then none else
        match acc.transition top.node (top.trans - 1) with
        | none => none
        | some t =>
          match acc.node t.addr with
          | none => none
          | some n' =>
            some { inp, emptyOutput := none, stack := ⟨n', 0, out, st⟩ :: top :: rest, endAt := max }

/-- the three things the epilogue of `seek_min` can leave: the stack as it is, the top frame
stepped back by one transition (inclusive bound), or the child of that transition pushed
(exclusive bound) -/
theorem seekFinish_cases {acc : NodeAccess N} {incl : Bool} {max : Bound} {inp : Key}
    {stack : List (Frame N σ)} {fin : Option (N × Nat × σ)} {st : SState N σ}
    (h : seekFinish acc incl max (inp, stack, fin) = some st) :
    (st = ⟨inp, none, stack, max⟩ ∧ (fin = none ∨ stack = [])) ∨
    (∃ top rest x out q, stack = top :: rest ∧ fin = some (x, out, q) ∧ top.trans ≠ 0 ∧
      st = ⟨inp.dropLast, none, { top with trans := top.trans - 1 } :: rest, max⟩) ∨
    (∃ top rest x out q t n', stack = top :: rest ∧ fin = some (x, out, q) ∧ top.trans ≠ 0 ∧
      acc.transition top.node (top.trans - 1) = some t ∧ acc.node t.addr = some n' ∧
      st = ⟨inp, none, ⟨n', 0, out, q⟩ :: top :: rest, max⟩) := by
  rcases fin with _ | ⟨x, out, q⟩
  · cases h; exact Or.inl ⟨rfl, Or.inl rfl⟩
  · cases stack with
    | nil => cases h; exact Or.inl ⟨rfl, Or.inr rfl⟩
    | cons top rest =>
      simp only [seekFinish] at h
      by_cases h0 : top.trans = 0
      · cases incl <;> simp [h0] at h
      · cases incl with
        | true =>
          simp only [if_true, if_neg h0, Option.some.injEq] at h
          exact Or.inr (Or.inl ⟨top, rest, x, out, q, rfl, rfl, h0, h.symm⟩)
        | false =>
          simp only [Bool.false_eq_true, if_false, if_neg h0] at h
          cases ht : acc.transition top.node (top.trans - 1) with
          | none => rw [ht] at h; cases h
          | some t =>
            rw [ht] at h
            simp only at h
            cases hn : acc.node t.addr with
            | none => rw [hn] at h; cases h
            | some n' =>
              rw [hn] at h
              exact Or.inr (Or.inr ⟨top, rest, x, out, q, t, n', rfl, rfl, h0, ht, hn,
                (Option.some.inj h).symm⟩)

/-- a non-empty lower bound: the loop of `seek_min`, then its epilogue -/
theorem streamNew_seek (acc : NodeAccess N) (A : Aut σ) (root : Nat) (min max : Bound)
    (hmin : min.isEmpty = false) (r : N) (hr : acc.node root = some r) :
    streamNew acc A root min max =
      (seekLoop acc A (Bound.key min) r 0 A.start [] []).bind (seekFinish acc min.isInclusive max) := by
  simp only [streamNew, hr, hmin, Bool.false_eq_true, if_false]
  cases min with
  | unbounded => cases hmin
  | included k =>
    show _ = (seekLoop acc A k r 0 A.start [] []).bind (seekFinish acc true max)
    rcases seekLoop acc A k r 0 A.start [] [] with _ | ⟨inp, stack, _ | ⟨_, out, st⟩⟩
    · rfl
    · rfl
    · cases stack <;> rfl
  | excluded k =>
    show _ = (seekLoop acc A k r 0 A.start [] []).bind (seekFinish acc false max)
    rcases seekLoop acc A k r 0 A.start [] [] with _ | ⟨inp, stack, _ | ⟨_, out, st⟩⟩
    · rfl
    · rfl
    · cases stack <;> rfl

/-- an empty lower bound: the root frame, and the root's own output if the bound is inclusive -/
theorem streamNew_empty (acc : NodeAccess N) (A : Aut σ) (root : Nat) (min max : Bound)
    (hmin : min.isEmpty = true) (r : N) (hr : acc.node root = some r) :
    streamNew acc A root min max =
      some ⟨[], if min.isInclusive && acc.isFinal r then some (acc.finalOutput r) else none,
        [⟨r, 0, 0, A.start⟩], max⟩ := by
  simp only [streamNew, hr, hmin, if_true]
  cases min.isInclusive <;> cases acc.isFinal r <;> rfl

theorem key_nil (min : Bound) (hmin : min.isEmpty = true) : Bound.key min = [] := by
  cases min with
  | unbounded => rfl
  | included k => simpa [Bound.isEmpty, Bound.key] using hmin
  | excluded k => simpa [Bound.isEmpty, Bound.key] using hmin

theorem key_ne_nil (min : Bound) (hmin : min.isEmpty = false) : Bound.key min ≠ [] := by
  cases min with
  | unbounded => cases hmin
  | included k => intro h; rw [show k = [] from h] at hmin; cases hmin
  | excluded k => intro h; rw [show k = [] from h] at hmin; cases hmin

end StreamP
end Fst
