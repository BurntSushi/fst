import FstVerif.Model.Wrappers
import FstVerif.Proofs.Seek
import FstVerif.Proofs.Ops
/-
The public wrapper layer (`src/map.rs`, `src/set.rs`, model in `Model/Wrappers.lean`)
transfers the theorems about the raw layer to user-level statements:

In the order of the file: `Keys` / `Values` / the collectors are the two projections of `Stream`
(`keys_values_zip`); the range setters (last setter of a side wins, sides commute); range / search
queries of `Map` and `Set` — `searches_of_stream` carries any statement about the raw stream (with
or without an `accept_eof` hook, over a store or a file) to the four searches; `map::OpBuilder`
operations are the raw ones (`mapOp_eq`); `set::OpBuilder` operations in terms of key lists only;
`Set::is_disjoint / is_subset / is_superset`.
-/
namespace Fst.Wrap
open Fst Fst.Ops

variable {N σ : Type}

/-! ## projections and collectors -/

theorem foldl_push {α β : Type} (f : α → β) (l : List α) (init : List β) :
    l.foldl (fun vs x => vs ++ [f x]) init = init ++ l.map f := by
  induction l generalizing init with
  | nil => simp
  | cons a t ih => simp [ih]

/-- `map::Stream` yields the raw items unchanged (`Output::value` is the identity) -/
@[simp] theorem mapStream_eq (raw : List (Key × Nat)) : mapStream raw = raw := by
  simp [mapStream]

@[simp] theorem mapStreamWithState_eq (items : List (Key × Nat × σ)) :
    mapStreamWithState items = items := by
  simp [mapStreamWithState]

theorem mapKeys_eq (raw : List (Key × Nat)) : mapKeys raw = raw.map (·.1) := rfl
theorem mapValues_eq (raw : List (Key × Nat)) : mapValues raw = raw.map (·.2) := rfl
theorem setStream_eq (raw : List (Key × Nat)) : setStream raw = raw.map (·.1) := rfl

theorem intoByteVec_eq (raw : List (Key × Nat)) : intoByteVec raw = mapStream raw := by
  simp [intoByteVec, rawIntoByteVec, foldl_push (fun kv : Key × Nat => (kv.1, kv.2))]

theorem intoByteKeys_eq (raw : List (Key × Nat)) : intoByteKeys raw = mapKeys raw := by
  simp [intoByteKeys, rawIntoByteKeys, mapKeys, foldl_push (fun kv : Key × Nat => kv.1)]

theorem intoValues_eq (raw : List (Key × Nat)) : intoValues raw = mapValues raw := by
  simp [intoValues, rawIntoValues, mapValues, foldl_push (fun kv : Key × Nat => kv.2)]

theorem intoBytes_eq (raw : List (Key × Nat)) : intoBytes raw = setStream raw := by
  simp [intoBytes, rawIntoByteKeys, setStream, foldl_push (fun kv : Key × Nat => kv.1)]

/-- `Keys` and `Values` are the two halves of `Stream`: zipping them gives the stream back -/
theorem keys_values_zip (raw : List (Key × Nat)) :
    (mapKeys raw).zip (mapValues raw) = mapStream raw ∧
    (mapKeys raw).length = (mapStream raw).length ∧
    (mapValues raw).length = (mapStream raw).length := by
  refine ⟨?_, by simp [mapKeys], by simp [mapValues]⟩
  rw [mapStream_eq]
  exact List.zip_map'.trans (List.map_id' raw)

theorem intoByteKeys_intoValues_zip (raw : List (Key × Nat)) :
    (intoByteKeys raw).zip (intoValues raw) = intoByteVec raw ∧
    (intoByteKeys raw).length = (intoByteVec raw).length ∧
    (intoValues raw).length = (intoByteVec raw).length := by
  rw [intoByteKeys_eq, intoValues_eq, intoByteVec_eq]
  exact keys_values_zip raw

theorem setStream_eq_mapKeys (raw : List (Key × Nat)) : setStream raw = mapKeys raw := rfl

theorem mapStreamWithState_forget (items : List (Key × Nat × σ)) :
    (mapStreamWithState items).map (fun x => (x.1, x.2.1)) = mapStream (rawStream items) := by
  simp [rawStream]

theorem setStreamWithState_forget (items : List (Key × Nat × σ)) :
    (setStreamWithState items).map (·.1) = setStream (rawStream items) := by
  simp [setStreamWithState, setStream, rawStream]

example : mapKeys [([1], 7), ([1, 2], 0), ([3], 7)] = [[1], [1, 2], [3]] ∧
    mapValues [([1], 7), ([1, 2], 0), ([3], 7)] = [7, 0, 7] ∧
    intoByteVec [([1], 7), ([1, 2], 0), ([3], 7)] = [([1], 7), ([1, 2], 0), ([3], 7)] ∧
    intoBytes [([1], 7), ([1, 2], 0), ([3], 7)] = [[1], [1, 2], [3]] := by decide

/-! ## the range setters -/

theorem ge_ge (rs : RangeSpec) (a b : Key) : (rs.ge a).ge b = rs.ge b := rfl
theorem gt_ge (rs : RangeSpec) (a b : Key) : (rs.gt a).ge b = rs.ge b := rfl
theorem ge_gt (rs : RangeSpec) (a b : Key) : (rs.ge a).gt b = rs.gt b := rfl
theorem gt_gt (rs : RangeSpec) (a b : Key) : (rs.gt a).gt b = rs.gt b := rfl
theorem le_le (rs : RangeSpec) (a b : Key) : (rs.le a).le b = rs.le b := rfl
theorem lt_le (rs : RangeSpec) (a b : Key) : (rs.lt a).le b = rs.le b := rfl
theorem le_lt (rs : RangeSpec) (a b : Key) : (rs.le a).lt b = rs.lt b := rfl
theorem lt_lt (rs : RangeSpec) (a b : Key) : (rs.lt a).lt b = rs.lt b := rfl
theorem ge_le_comm (rs : RangeSpec) (a b : Key) : (rs.ge a).le b = (rs.le b).ge a := rfl
theorem ge_lt_comm (rs : RangeSpec) (a b : Key) : (rs.ge a).lt b = (rs.lt b).ge a := rfl
theorem gt_le_comm (rs : RangeSpec) (a b : Key) : (rs.gt a).le b = (rs.le b).gt a := rfl
theorem gt_lt_comm (rs : RangeSpec) (a b : Key) : (rs.gt a).lt b = (rs.lt b).gt a := rfl

/-- one call of a `StreamBuilder` setter -/
inductive Setter
  | ge (k : Key) | gt (k : Key) | le (k : Key) | lt (k : Key)

def Setter.apply (rs : RangeSpec) : Setter → RangeSpec
  | .ge k => rs.ge k
  | .gt k => rs.gt k
  | .le k => rs.le k
  | .lt k => rs.lt k

/-- `range().s₁(..).s₂(..)…` -/
def applySetters (l : List Setter) : RangeSpec := l.foldl Setter.apply {}

/-- every `RangeSpec` is the result of at most two setter calls on `range()`, so a statement
"for every `rs : RangeSpec`" is a statement about every chain of setter calls (and conversely
every chain gives some `RangeSpec`) -/
theorem rangeSpec_reachable (rs : RangeSpec) : ∃ l : List Setter, applySetters l = rs := by
  obtain ⟨mn, mx⟩ := rs
  cases mn with
  | included a =>
    cases mx with
    | included b => exact ⟨[.ge a, .le b], rfl⟩
    | excluded b => exact ⟨[.ge a, .lt b], rfl⟩
    | unbounded => exact ⟨[.ge a], rfl⟩
  | excluded a =>
    cases mx with
    | included b => exact ⟨[.gt a, .le b], rfl⟩
    | excluded b => exact ⟨[.gt a, .lt b], rfl⟩
    | unbounded => exact ⟨[.gt a], rfl⟩
  | unbounded =>
    cases mx with
    | included b => exact ⟨[.le b], rfl⟩
    | excluded b => exact ⟨[.lt b], rfl⟩
    | unbounded => exact ⟨[], rfl⟩

def inRange (rs : RangeSpec) (k : Key) : Bool := lowerOK rs.min k && upperOK rs.max k

/-- what the setters mean for `inRange`: `ge a` = "`a ≤ k`", `gt a` = "`a < k`",
`le b` = "`k ≤ b`", `lt b` = "`k < b`", no setter = no constraint -/
theorem inRange_default (k : Key) : inRange {} k = true := rfl
theorem inRange_ge (rs : RangeSpec) (a k : Key) :
    inRange (rs.ge a) k = (lexLe a k && upperOK rs.max k) := rfl
theorem inRange_gt (rs : RangeSpec) (a k : Key) :
    inRange (rs.gt a) k = (lexLt a k && upperOK rs.max k) := rfl
theorem inRange_le (rs : RangeSpec) (b k : Key) :
    inRange (rs.le b) k = (lowerOK rs.min k && lexLe k b) := rfl
theorem inRange_lt (rs : RangeSpec) (b k : Key) :
    inRange (rs.lt b) k = (lowerOK rs.min k && lexLt k b) := by
  simp [inRange, upperOK, RangeSpec.lt, Bound.exceededBy]

example : applySetters [.ge [1], .lt [9], .gt [2], .le [7, 7]] = (({} : RangeSpec).gt [2]).le [7, 7] := rfl
example : inRange (applySetters [.ge [1], .lt [9], .gt [2], .le [7, 7]]) [2] = false ∧
    inRange (applySetters [.ge [1], .lt [9], .gt [2], .le [7, 7]]) [2, 0] = true ∧
    inRange (applySetters [.ge [1], .lt [9], .gt [2], .le [7, 7]]) [7, 7] = true ∧
    inRange (applySetters [.ge [1], .lt [9], .gt [2], .le [7, 7]]) [8] = false := by decide


/-! ## range and search queries -/

section Queries
open Fst.StreamExample Fst.StreamP

variable {acc : NodeAccess N} {A : Aut σ} {s : Store} {den : Nat → KV}

theorem rawStream_triples (l : KV) (f : Key → σ) :
    rawStream (l.map fun kv => (kv.1, kv.2, f kv.1)) = l := by
  induction l with
  | nil => rfl
  | cons a t ih => simp only [rawStream, List.map_cons, List.map_map] at ih ⊢; rw [ih]

/-- every query wrapper is `(rawQuery …).map g`: what is known about the raw stream
(`streamNew` + `streamCollect`, as the stream theorems state it) carries over to it. No store,
no automaton contract is involved. -/
theorem query_transfer {β : Type} {root : Nat} {rs : RangeSpec} {L : List (Key × Nat × σ)}
    (g : List (Key × Nat × σ) → β)
    (h : ∃ s0, streamNew acc A root rs.min rs.max = some s0 ∧ ∃ M, ∀ fuel, M ≤ fuel →
      streamCollect acc A root fuel s0 [] = some L) :
    ∃ M, ∀ fuel, M ≤ fuel → (rawQuery acc A root rs fuel).map g = some (g L) := by
  obtain ⟨s0, h0, M, hM⟩ := h
  exact ⟨M, fun fuel hf => by simp only [rawQuery, h0, hM fuel hf, Option.map_some]⟩

/-- the four searches of `Map` and `Set` (`search`, `search_with_state`, with any setters), from
what the raw stream yields: entries `L`, each with a state `f key` -/
theorem searches_of_stream {root : Nat} {rs : RangeSpec} {L : KV} (f : Key → σ)
    (h : ∃ s0, streamNew acc A root rs.min rs.max = some s0 ∧ ∃ M, ∀ fuel, M ≤ fuel →
      streamCollect acc A root fuel s0 [] = some (L.map fun kv => (kv.1, kv.2, f kv.1))) :
    (∃ N, ∀ fuel, N ≤ fuel → mapSearch acc A root rs fuel = some L) ∧
    (∃ N, ∀ fuel, N ≤ fuel → mapSearchWithState acc A root rs fuel =
        some (L.map fun kv => (kv.1, kv.2, f kv.1))) ∧
    (∃ N, ∀ fuel, N ≤ fuel → setSearch acc A root rs fuel = some (L.map (·.1))) ∧
    (∃ N, ∀ fuel, N ≤ fuel → setSearchWithState acc A root rs fuel =
        some (L.map fun kv => (kv.1, f kv.1))) := by
  have h1 := query_transfer (fun items => mapStream (rawStream items)) h
  have h2 := query_transfer mapStreamWithState h
  have h3 := query_transfer (fun items => setStream (rawStream items)) h
  have h4 := query_transfer setStreamWithState h
  rw [rawStream_triples, mapStream_eq] at h1
  rw [mapStreamWithState_eq] at h2
  rw [rawStream_triples, setStream_eq] at h3
  rw [setStreamWithState, List.map_map] at h4
  exact ⟨h1, h2, h3, h4⟩

/-- `map.range().ge(..)…into_stream()`: exactly the entries of the map inside the range, in key
order — for every `RangeSpec`, i.e. (by `rangeSpec_reachable`) every chain of setter calls -/
theorem mapRange_correct (hg : GoodStore s den) (hr : Represents acc s) (root : Nat)
    (hroot : root = 0 ∨ ∃ n, (root, n) ∈ s) (rs : RangeSpec) :
    ∃ N, ∀ fuel, N ≤ fuel → mapRange acc root rs fuel =
      some ((den root).filter fun kv => lowerOK rs.min kv.1 && upperOK rs.max kv.1) :=
  (searches_of_stream (fun _ => ())
    (stream_correct_always hg hr root hroot rs.min rs.max)).1

/-- `set.range()…into_stream()`: the keys of `mapRange_correct` -/
theorem setRange_correct (hg : GoodStore s den) (hr : Represents acc s) (root : Nat)
    (hroot : root = 0 ∨ ∃ n, (root, n) ∈ s) (rs : RangeSpec) :
    ∃ N, ∀ fuel, N ≤ fuel → setRange acc root rs fuel =
      some (((den root).filter fun kv => lowerOK rs.min kv.1 && upperOK rs.max kv.1).map (·.1)) :=
  (searches_of_stream (fun _ => ())
    (stream_correct_always hg hr root hroot rs.min rs.max)).2.2.1

theorem mapRange_correct_setters (hg : GoodStore s den) (hr : Represents acc s) (root : Nat)
    (hroot : root = 0 ∨ ∃ n, (root, n) ∈ s) (l : List Setter) :
    ∃ N, ∀ fuel, N ≤ fuel → mapRange acc root (applySetters l) fuel =
      some ((den root).filter fun kv => inRange (applySetters l) kv.1) :=
  mapRange_correct hg hr root hroot (applySetters l)

/-- `Map::stream()`: all entries -/
theorem mapAll_correct (hg : GoodStore s den) (hr : Represents acc s) (root : Nat)
    (hroot : root = 0 ∨ ∃ n, (root, n) ∈ s) :
    ∃ N, ∀ fuel, N ≤ fuel → mapAll acc root fuel = some (den root) := by
  simpa only [mapAll, filter_unbounded] using mapRange_correct hg hr root hroot {}

/-- `Set::stream()`: all keys -/
theorem setAll_correct (hg : GoodStore s den) (hr : Represents acc s) (root : Nat)
    (hroot : root = 0 ∨ ∃ n, (root, n) ∈ s) :
    ∃ N, ∀ fuel, N ≤ fuel → setAll acc root fuel = some ((den root).map (·.1)) := by
  simpa only [setAll, filter_unbounded] using setRange_correct hg hr root hroot {}

/-- `Map::keys()` / `Map::values()`: the two projections of `Map::stream()` -/
theorem mapAllKeys_values_correct (hg : GoodStore s den) (hr : Represents acc s) (root : Nat)
    (hroot : root = 0 ∨ ∃ n, (root, n) ∈ s) :
    ∃ N, ∀ fuel, N ≤ fuel → mapAllKeys acc root fuel = some ((den root).map (·.1)) ∧
      mapAllValues acc root fuel = some ((den root).map (·.2)) := by
  obtain ⟨s0, h0, N0, hN⟩ := stream_correct_always hg hr root hroot
    ({} : RangeSpec).min ({} : RangeSpec).max
  refine ⟨N0, fun fuel hf => ?_⟩
  simp only [mapAllKeys, mapAllValues, rawQuery, h0, hN fuel hf, Option.map_some]
  simp [mapKeys, mapValues, filter_unbounded, rawStream_triples _ (fun _ : Key => ())]

/-- the result of a range query over a set is strictly ascending -/
theorem setRange_sorted (hg : GoodStore s den) (root : Nat)
    (hroot : root = 0 ∨ ∃ n, (root, n) ∈ s) (rs : RangeSpec) :
    SortedK (((den root).filter fun kv => lowerOK rs.min kv.1 && upperOK rs.max kv.1).map (·.1)) := by
  unfold SortedK
  rw [List.pairwise_map]
  exact (den_pSorted hg root hroot).filter _

/-! on the store of `Proofs/Stream.lean` (keys `a ↦ 1`, `ab ↦ 2`, `b ↦ 3`, root 5) -/

example : ∃ N, ∀ fuel, N ≤ fuel →
    mapRange (storeAccess exStore) 5 ((({} : RangeSpec).ge [97]).gt [97]) fuel =
      some [([97, 98], 2), ([98], 3)] :=
  mapRange_correct exGood (storeAccess_represents exStore) 5 exRoot _
example : ∃ N, ∀ fuel, N ≤ fuel →
    setRange (storeAccess exStore) 5 (applySetters [.lt [98], .ge [97]]) fuel = some [[97], [97, 98]] :=
  setRange_correct exGood (storeAccess_represents exStore) 5 exRoot _
example : ∃ N, ∀ fuel, N ≤ fuel →
    mapSearchWithState (storeAccess exStore) (autStr [97, 98]) 5 {} fuel = some [([97, 98], 2, some 2)] :=
  (searches_of_stream _ (stream_correct exGood (storeAccess_represents exStore) 5 exRoot
    (autStr_contract [97, 98]).1 (autStr_contract [97, 98]).2 _ _)).2.1
example : ∃ N, ∀ fuel, N ≤ fuel →
    setSearchWithState (storeAccess exStore) (autStr [97, 98]) 5 (({} : RangeSpec).le [98]) fuel =
      some [([97, 98], some 2)] :=
  (searches_of_stream _ (stream_correct exGood (storeAccess_represents exStore) 5 exRoot
    (autStr_contract [97, 98]).1 (autStr_contract [97, 98]).2 _ _)).2.2.2
example : mapRange (storeAccess exStore) 5 ((({} : RangeSpec).ge [97]).gt [97]) 20 =
      some [([97, 98], 2), ([98], 3)] ∧
    setRange (storeAccess exStore) 5 (applySetters [.lt [98], .ge [97]]) 20 = some [[97], [97, 98]] ∧
    mapSearchWithState (storeAccess exStore) (autStr [97, 98]) 5 {} 20 = some [([97, 98], 2, some 2)] ∧
    mapAllKeys (storeAccess exStore) 5 20 = some [[97], [97, 98], [98]] ∧
    mapAllValues (storeAccess exStore) 5 20 = some [1, 2, 3] := by decide

end Queries

/-! ## `StreamOutput` / `StreamZeroOutput` and the vocabulary of `Proofs/Ops.lean` -/

/-- `StreamOutput` changes nothing (`Output::new` is the identity in the model) -/
@[simp] theorem withOutput_eq (l : KV) : withOutput l = l := by
  simp [withOutput]

@[simp] theorem map_withOutput (streams : List KV) : streams.map withOutput = streams := by
  induction streams with
  | nil => rfl
  | cons a t ih => simp [ih]

@[simp] theorem keys_zeroOutput (l : List Key) : (zeroOutput l).map (·.1) = l := by
  induction l with
  | nil => rfl
  | cons a t ih => simp only [zeroOutput, List.map_cons, List.map_map] at ih ⊢; rw [ih]

theorem values_zeroOutput (l : List Key) : ∀ kv ∈ zeroOutput l, kv.2 = 0 := by
  intro kv h
  simp only [zeroOutput, List.mem_map] at h
  obtain ⟨k, -, rfl⟩ := h
  rfl

theorem sortedKV_zeroOutput (l : List Key) : SortedKV (zeroOutput l) ↔ SortedK l := by
  rw [sortedKV_iff_pairwise]
  unfold SortedK zeroOutput
  rw [List.pairwise_map]

theorem keyOf_zeroOutput (l : List Key) (k : Key) : KeyOf (zeroOutput l) k ↔ k ∈ l := by
  rw [keyOf_iff_mem, keys_zeroOutput]

theorem hasKey_zeroOutput (streams : List (List Key)) (k : Key) :
    HasKey (streams.map zeroOutput) k ↔ ∃ l ∈ streams, k ∈ l := by
  unfold HasKey
  constructor
  · rintro ⟨l', hl', hv⟩
    obtain ⟨l, hl, rfl⟩ := List.mem_map.1 hl'
    exact ⟨l, hl, (keyOf_zeroOutput l k).1 hv⟩
  · rintro ⟨l, hl, hk⟩
    exact ⟨zeroOutput l, List.mem_map_of_mem hl, (keyOf_zeroOutput l k).2 hk⟩

theorem sorted_zeroStreams {streams : List (List Key)} (hs : ∀ l ∈ streams, SortedK l) :
    ∀ l ∈ streams.map zeroOutput, SortedKV l := by
  intro l' hl'
  obtain ⟨l, hl, rfl⟩ := List.mem_map.1 hl'
  exact (sortedKV_zeroOutput l).2 (hs l hl)

/-- over zero-output streams, the number of occurrences of a key is the number of streams
containing it -/
theorem occ_zero_length {streams : List (List Key)} (hs : ∀ l ∈ streams, SortedK l) (k : Key) :
    (occ (streams.map zeroOutput) k).length = (streams.filter (k ∈ ·)).length := by
  have h := congrArg List.length (occ_values (streams.map zeroOutput) k)
  rw [List.length_map] at h
  rw [h]
  clear h
  induction streams with
  | nil => rfl
  | cons l t ih =>
    have ih := ih fun x hx => hs x (List.mem_cons_of_mem _ hx)
    have hl : (((zeroOutput l).filter (·.1 == k)).map (·.2)).length = (l.filter (· == k)).length := by
      simp only [zeroOutput, List.filter_map, List.length_map]
      rfl
    have := key_lawful  -- named: the search for the instance is slow
    rw [List.map_cons, List.flatMap_cons, List.length_append, hl, ih, List.filter_cons,
      filter_beq_of_nodup (nodup_of_sortedK (hs l (List.mem_cons_self ..)))]
    split
    next hk => simp [hk, Nat.add_comm]
    next hk => simp [hk]

/-! ## `map::OpBuilder`: the raw operations, unchanged -/

theorem mapOp_eq (pop : PopFn) (kind : OpKind) (streams : List KV) :
    mapOp pop kind streams = opCollect pop kind streams := by
  simp [mapOp]

theorem mapOp_union (pop : PopFn) (hp : PopSpec pop) (streams : List KV) (hs : ∀ l ∈ streams, SortedKV l) :
    ∃ out, mapOp pop .union streams = some out ∧ out.map (·.1) = allKeys streams ∧
      ∀ k outs, (k, outs) ∈ out → outs.Perm (occ streams k) := by
  rw [mapOp_eq]; exact C05_union pop hp streams hs

theorem mapOp_inter (pop : PopFn) (hp : PopSpec pop) (streams : List KV) (hs : ∀ l ∈ streams, SortedKV l) :
    ∃ out, mapOp pop .intersection streams = some out ∧
      out.map (·.1) = (allKeys streams).filter (fun k => decide ((occ streams k).length = streams.length)) ∧
      ∀ k outs, (k, outs) ∈ out → outs.Perm (occ streams k) := by
  rw [mapOp_eq]; exact C05_inter pop hp streams hs

theorem mapOp_symdiff (pop : PopFn) (hp : PopSpec pop) (streams : List KV) (hs : ∀ l ∈ streams, SortedKV l) :
    ∃ out, mapOp pop .symmetricDifference streams = some out ∧
      out.map (·.1) = (allKeys streams).filter (fun k => decide ((occ streams k).length % 2 = 1)) ∧
      ∀ k outs, (k, outs) ∈ out → outs.Perm (occ streams k) := by
  rw [mapOp_eq]; exact C05_symdiff pop hp streams hs

theorem mapOp_diff (pop : PopFn) (hp : PopSpec pop) (streams : List KV) (hne : streams ≠ [])
    (hs : ∀ l ∈ streams, SortedKV l) :
    mapOp pop .difference streams =
      some (((streams.head hne).filter (fun kv => !hasKeyB streams.tail kv.1)).map
        (fun kv => (kv.1, [⟨0, kv.2⟩]))) := by
  rw [mapOp_eq]; exact C05_diff pop hp streams hne hs

/-- `OpBuilder::new().difference()` with no stream panics (`swap_remove(0)`) -/
theorem mapOp_diff_empty (pop : PopFn) : mapOp pop .difference [] = none := rfl

example : mapOp popMin .union exStreams = some
    [([], [⟨2, 1⟩, ⟨0, 1⟩]), ([1], [⟨0, 2⟩, ⟨3, 2⟩, ⟨2, 7⟩]), ([1, 2], [⟨0, 3⟩, ⟨3, 9⟩]),
     ([2], [⟨2, 5⟩]), ([3], [⟨3, 0⟩, ⟨0, 4⟩]), ([5], [⟨0, 6⟩])] := by decide
example : ∃ out, mapOp popMin .symmetricDifference exStreams = some out ∧
    out.map (·.1) = (allKeys exStreams).filter (fun k => decide ((occ exStreams k).length % 2 = 1)) ∧
    ∀ k outs, (k, outs) ∈ out → outs.Perm (occ exStreams k) :=
  mapOp_symdiff popMin popSpec_popMin exStreams exStreams_sorted

/-! ## `set::OpBuilder`: the operations on key lists -/

theorem setOp_eq (pop : PopFn) (kind : OpKind) (streams : List (List Key)) :
    setOp pop kind streams =
      (opCollect pop kind (streams.map zeroOutput)).map fun items => items.map (·.1) := rfl

/-- all keys of all streams, ascending, each once — defined from the key lists only -/
def unionKeys (streams : List (List Key)) : List Key := streams.flatten.foldr insertKey []

/-- the keys of all streams (of at least one stream) that are in every stream -/
def interKeys (streams : List (List Key)) : List Key :=
  (unionKeys streams).filter fun k => streams.all fun l => decide (k ∈ l)

/-- the keys that are in an odd number of the streams -/
def symDiffKeys (streams : List (List Key)) : List Key :=
  (unionKeys streams).filter fun k => decide ((streams.filter (k ∈ ·)).length % 2 = 1)

/-- the keys of the first stream that are in none of the others -/
def diffKeys (first : List Key) (rest : List (List Key)) : List Key :=
  first.filter fun k => !rest.any fun l => decide (k ∈ l)

theorem allKeys_zeroOutput (streams : List (List Key)) :
    allKeys (streams.map zeroOutput) = unionKeys streams := by
  simp [allKeys, unionKeys, List.map_flatten, Function.comp_def, zeroOutput]

theorem sorted_unionKeys (streams : List (List Key)) : SortedK (unionKeys streams) := by
  rw [← allKeys_zeroOutput]; exact sorted_allKeys _

theorem mem_unionKeys (streams : List (List Key)) (k : Key) :
    k ∈ unionKeys streams ↔ ∃ l ∈ streams, k ∈ l := by
  rw [← allKeys_zeroOutput, mem_allKeys, hasKey_zeroOutput]

theorem sorted_interKeys (streams : List (List Key)) : SortedK (interKeys streams) :=
  (sorted_unionKeys streams).filter _

/-- membership in `interKeys`; for the empty list of streams the right-hand side is false
(there is no stream to take the key from), see `mem_interKeys_of_ne` and `setOp_inter_nil` -/
theorem mem_interKeys (streams : List (List Key)) (k : Key) :
    k ∈ interKeys streams ↔ (∃ l ∈ streams, k ∈ l) ∧ ∀ l ∈ streams, k ∈ l := by
  simp [interKeys, List.mem_filter, mem_unionKeys]

theorem mem_interKeys_of_ne (streams : List (List Key)) (hne : streams ≠ []) (k : Key) :
    k ∈ interKeys streams ↔ ∀ l ∈ streams, k ∈ l := by
  rw [mem_interKeys]
  constructor
  · exact fun h => h.2
  · intro h
    cases streams with
    | nil => exact absurd rfl hne
    | cons a t => exact ⟨⟨a, List.mem_cons_self .., h a (List.mem_cons_self ..)⟩, h⟩

theorem sorted_symDiffKeys (streams : List (List Key)) : SortedK (symDiffKeys streams) :=
  (sorted_unionKeys streams).filter _

theorem mem_symDiffKeys (streams : List (List Key)) (k : Key) :
    k ∈ symDiffKeys streams ↔ (streams.filter (k ∈ ·)).length % 2 = 1 := by
  simp only [symDiffKeys, List.mem_filter, mem_unionKeys, decide_eq_true_eq, and_iff_right_iff_imp]
  intro h
  obtain ⟨l, hl⟩ := List.exists_mem_of_length_pos <| Nat.pos_of_ne_zero fun h0 => by
    rw [h0] at h
    cases h
  rw [List.mem_filter] at hl
  exact ⟨l, hl.1, by simpa using hl.2⟩

theorem sorted_diffKeys {first : List Key} (h : SortedK first) (rest : List (List Key)) :
    SortedK (diffKeys first rest) :=
  List.Pairwise.filter _ h

theorem mem_diffKeys (first : List Key) (rest : List (List Key)) (k : Key) :
    k ∈ diffKeys first rest ↔ k ∈ first ∧ ∀ l ∈ rest, k ∉ l := by
  simp [diffKeys, List.mem_filter]

/-- `set::Union`: drained, it is `unionKeys` -/
theorem setOp_union (pop : PopFn) (hp : PopSpec pop) (streams : List (List Key))
    (hs : ∀ l ∈ streams, SortedK l) :
    setOp pop .union streams = some (unionKeys streams) := by
  obtain ⟨out, h1, h2, -⟩ := C05_union pop hp _ (sorted_zeroStreams hs)
  rw [setOp_eq, h1, Option.map_some, h2, allKeys_zeroOutput]

/-- `set::Intersection` -/
theorem setOp_inter (pop : PopFn) (hp : PopSpec pop) (streams : List (List Key))
    (hs : ∀ l ∈ streams, SortedK l) :
    setOp pop .intersection streams = some (interKeys streams) := by
  obtain ⟨out, h1, h2, -⟩ := C05_inter pop hp _ (sorted_zeroStreams hs)
  rw [setOp_eq, h1, Option.map_some, h2, allKeys_zeroOutput]
  refine congrArg some (List.filter_congr fun k _ => ?_)
  rw [occ_zero_length hs, List.length_map, Bool.eq_iff_iff, decide_eq_true_eq,
    List.length_filter_eq_length_iff, List.all_eq_true]

/-- `set::SymmetricDifference` -/
theorem setOp_symdiff (pop : PopFn) (hp : PopSpec pop) (streams : List (List Key))
    (hs : ∀ l ∈ streams, SortedK l) :
    setOp pop .symmetricDifference streams = some (symDiffKeys streams) := by
  obtain ⟨out, h1, h2, -⟩ := C05_symdiff pop hp _ (sorted_zeroStreams hs)
  rw [setOp_eq, h1, Option.map_some, h2, allKeys_zeroOutput]
  refine congrArg some (List.filter_congr fun k _ => ?_)
  rw [occ_zero_length hs]

theorem hasKeyB_zeroOutput (rest : List (List Key)) (k : Key) :
    hasKeyB (rest.map zeroOutput) k = rest.any fun l => decide (k ∈ l) := by
  rw [Bool.eq_iff_iff, hasKeyB_iff, hasKey_zeroOutput]
  simp

theorem diff_keys_aux (first : List Key) (p : Key → Bool) :
    (((zeroOutput first).filter (fun kv => p kv.1)).map
      (fun kv => (kv.1, [(⟨0, kv.2⟩ : IndexedValue)]))).map (·.1) = first.filter p := by
  simp [zeroOutput, List.filter_map, Function.comp_def]

/-- `set::Difference` -/
theorem setOp_diff (pop : PopFn) (hp : PopSpec pop) (first : List Key) (rest : List (List Key))
    (hs : ∀ l ∈ first :: rest, SortedK l) :
    setOp pop .difference (first :: rest) = some (diffKeys first rest) := by
  have h := C05_diff pop hp ((first :: rest).map zeroOutput) (by simp) (sorted_zeroStreams hs)
  rw [setOp_eq, h, Option.map_some]
  simp only [List.map_cons, List.head_cons, List.tail_cons]
  rw [diff_keys_aux first (fun k => !hasKeyB (rest.map zeroOutput) k)]
  unfold diffKeys
  congr 1
  apply List.filter_congr
  intro k _
  rw [hasKeyB_zeroOutput]

/-- `set::OpBuilder::new().difference()` with no stream panics (`swap_remove(0)`) -/
theorem setOp_diff_nil (pop : PopFn) : setOp pop .difference [] = none := rfl

/-- the intersection of no streams is empty (not "everything") -/
theorem setOp_inter_nil (pop : PopFn) (hp : PopSpec pop) : setOp pop .intersection [] = some [] :=
  setOp_inter pop hp [] (by simp)

/-- for no streams the result is `some []` (`setOp_inter_nil`), while `∀ l ∈ [], k ∈ l` holds for
every key: hence the first conjunct -/
theorem setInter_correct' (pop : PopFn) (hp : PopSpec pop) (streams : List (List Key))
    (hs : ∀ l ∈ streams, SortedK l) :
    ∃ out, setOp pop .intersection streams = some out ∧
      SortedK out ∧ ∀ k, k ∈ out ↔ (∃ l ∈ streams, k ∈ l) ∧ ∀ l ∈ streams, k ∈ l :=
  ⟨_, setOp_inter pop hp streams hs, sorted_interKeys streams, mem_interKeys streams⟩

/-- the `set::OpBuilder` result does not depend on the heap's tie-break at all (the map-level
result does: the order of the `IndexedValue`s, see `Proofs/Ops.lean`) -/
theorem setOp_pop_independent (pop pop' : PopFn) (hp : PopSpec pop) (hp' : PopSpec pop')
    (kind : OpKind) (streams : List (List Key)) (hs : ∀ l ∈ streams, SortedK l) :
    setOp pop kind streams = setOp pop' kind streams := by
  cases kind with
  | union => rw [setOp_union pop hp streams hs, setOp_union pop' hp' streams hs]
  | intersection => rw [setOp_inter pop hp streams hs, setOp_inter pop' hp' streams hs]
  | symmetricDifference => rw [setOp_symdiff pop hp streams hs, setOp_symdiff pop' hp' streams hs]
  | difference =>
    cases streams with
    | nil => rfl
    | cons first rest => rw [setOp_diff pop hp first rest hs, setOp_diff pop' hp' first rest hs]

/-- example streams: the empty key, a key in all three, keys in one or two -/
def exSets : List (List Key) := [[[], [1], [2], [2, 0]], [[2], [3]], [[], [2], [2, 0], [7]]]

theorem exSets_sorted : ∀ l ∈ exSets, SortedK l := by
  unfold SortedK
  decide

example : ∃ out, setOp popMin .union exSets = some out ∧ out = allKeys (exSets.map zeroOutput) ∧
    SortedK out ∧ ∀ k, k ∈ out ↔ ∃ l ∈ exSets, k ∈ l :=
  ⟨_, setOp_union popMin popSpec_popMin exSets exSets_sorted, (allKeys_zeroOutput exSets).symm,
    sorted_unionKeys exSets, mem_unionKeys exSets⟩
example : ∃ out, setOp popMin .intersection exSets = some out ∧
    SortedK out ∧ ∀ k, k ∈ out ↔ ∀ l ∈ exSets, k ∈ l :=
  ⟨_, setOp_inter popMin popSpec_popMin exSets exSets_sorted, sorted_interKeys exSets,
    mem_interKeys_of_ne exSets (by simp [exSets])⟩
example : ∃ out, setOp popMin .symmetricDifference exSets = some out ∧
    SortedK out ∧ ∀ k, k ∈ out ↔ (exSets.filter (k ∈ ·)).length % 2 = 1 :=
  ⟨_, setOp_symdiff popMin popSpec_popMin exSets exSets_sorted, sorted_symDiffKeys exSets,
    mem_symDiffKeys exSets⟩
example : ∃ out, setOp popMin .difference exSets = some out ∧
    SortedK out ∧ ∀ k, k ∈ out ↔ k ∈ exSets.head! ∧ ∀ l ∈ exSets.tail, k ∉ l :=
  ⟨_, setOp_diff popMin popSpec_popMin _ _ exSets_sorted,
    sorted_diffKeys (exSets_sorted _ (List.mem_cons_self ..)) _, mem_diffKeys _ _⟩
example : setOp popMin .union exSets = some [[], [1], [2], [2, 0], [3], [7]] ∧
    setOp popMin .intersection exSets = some [[2]] ∧
    setOp popMin .symmetricDifference exSets = some [[1], [2], [3], [7]] ∧
    setOp popMin .difference exSets = some [[1]] ∧
    unionKeys exSets = [[], [1], [2], [2, 0], [3], [7]] ∧ interKeys exSets = [[2]] ∧
    symDiffKeys exSets = [[1], [2], [3], [7]] ∧ diffKeys exSets.head! exSets.tail = [[1]] := by decide
example : setOp popMin .symmetricDifference [[[1], [2]], [[2], [3]], [[2]]] = some [[1], [2], [3]] := by
  decide
example : setOp popMinLast .symmetricDifference [[[1], [2]], [[2], [3]], [[2]]] = some [[1], [2], [3]] := by
  decide

/-! ## `Set::is_disjoint` / `is_subset` / `is_superset` -/

/-- `self` any FST (arbitrary outputs), `b` the items of the argument stream -/
theorem setIsDisjointFst_iff (pop : PopFn) (hp : PopSpec pop) (self : KV) (b : List Key)
    (ha : SortedKV self) (hb : SortedK b) :
    setIsDisjointFst pop self b = true ↔ ∀ k, ¬ (KeyOf self k ∧ k ∈ b) := by
  simpa only [setIsDisjointFst, keyOf_zeroOutput] using C05_disjoint pop hp self _ ha ((sortedKV_zeroOutput b).2 hb)

theorem setIsSubsetFst_iff (pop : PopFn) (hp : PopSpec pop) (self : KV) (b : List Key)
    (ha : SortedKV self) (hb : SortedK b) :
    setIsSubsetFst pop self b = true ↔ ∀ k, KeyOf self k → k ∈ b := by
  simpa only [setIsSubsetFst, keyOf_zeroOutput] using C05_subset pop hp self _ ha ((sortedKV_zeroOutput b).2 hb)

theorem setIsSupersetFst_iff (pop : PopFn) (hp : PopSpec pop) (self : KV) (b : List Key)
    (ha : SortedKV self) (hb : SortedK b) :
    setIsSupersetFst pop self b = true ↔ ∀ k, k ∈ b → KeyOf self k := by
  simpa only [setIsSupersetFst, keyOf_zeroOutput] using C05_superset pop hp self _ ha ((sortedKV_zeroOutput b).2 hb)

/-- `set.is_disjoint(stream)`: no common key -/
theorem setIsDisjoint_iff (pop : PopFn) (hp : PopSpec pop) (a b : List Key)
    (ha : SortedK a) (hb : SortedK b) :
    setIsDisjoint pop a b = true ↔ ∀ k, ¬ (k ∈ a ∧ k ∈ b) := by
  simpa only [setIsDisjoint, keyOf_zeroOutput] using setIsDisjointFst_iff pop hp _ b ((sortedKV_zeroOutput a).2 ha) hb

/-- `set.is_subset(stream)`: every key of the set is in the stream -/
theorem setIsSubset_iff (pop : PopFn) (hp : PopSpec pop) (a b : List Key)
    (ha : SortedK a) (hb : SortedK b) :
    setIsSubset pop a b = true ↔ ∀ k ∈ a, k ∈ b := by
  simpa only [setIsSubset, keyOf_zeroOutput] using setIsSubsetFst_iff pop hp _ b ((sortedKV_zeroOutput a).2 ha) hb

/-- `set.is_superset(stream)`: every key of the stream is in the set -/
theorem setIsSuperset_iff (pop : PopFn) (hp : PopSpec pop) (a b : List Key)
    (ha : SortedK a) (hb : SortedK b) :
    setIsSuperset pop a b = true ↔ ∀ k ∈ b, k ∈ a := by
  simpa only [setIsSuperset, keyOf_zeroOutput] using setIsSupersetFst_iff pop hp _ b ((sortedKV_zeroOutput a).2 ha) hb

def exKa : List Key := [[], [1], [2, 0]]
def exKb : List Key := [[], [0], [1], [2, 0], [9]]
def exKc : List Key := [[0], [9]]
theorem exKa_sorted : SortedK exKa := by
  unfold SortedK
  decide
theorem exKb_sorted : SortedK exKb := by
  unfold SortedK
  decide
theorem exKc_sorted : SortedK exKc := by
  unfold SortedK
  decide

example : setIsDisjoint popMin exKa exKc = true ↔ ∀ k, ¬ (k ∈ exKa ∧ k ∈ exKc) :=
  setIsDisjoint_iff popMin popSpec_popMin exKa exKc exKa_sorted exKc_sorted
example : setIsSubset popMin exKa exKb = true ↔ ∀ k ∈ exKa, k ∈ exKb :=
  setIsSubset_iff popMin popSpec_popMin exKa exKb exKa_sorted exKb_sorted
example : setIsSuperset popMin exKb exKa = true ↔ ∀ k ∈ exKa, k ∈ exKb :=
  setIsSuperset_iff popMin popSpec_popMin exKb exKa exKb_sorted exKa_sorted
/-- a set view of a map FST (non-zero outputs) against a key stream -/
example : setIsSubsetFst popMin exA exKb = true ↔ ∀ k, KeyOf exA k → k ∈ exKb :=
  setIsSubsetFst_iff popMin popSpec_popMin exA exKb exA_sorted exKb_sorted
example : setIsDisjoint popMin exKa exKc = true ∧ setIsDisjoint popMin exKa exKb = false ∧
    setIsSubset popMin exKa exKb = true ∧ setIsSubset popMin exKb exKa = false ∧
    setIsSuperset popMin exKb exKa = true ∧ setIsSuperset popMin exKa exKb = false ∧
    setIsSubsetFst popMin exA exKb = true ∧ setIsDisjointFst popMin exB exKc = false := by decide

end Fst.Wrap
