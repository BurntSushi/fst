import FstVerif.Proofs.EndToEnd
/-
C01 — build-then-enumerate round trip. Statements here; proofs through
Proofs/Build*.lean → Codec.lean → Stream.lean + Seek.lean → EndToEnd*.lean
(`map_file`, `set_file`). The statements are about the BYTES of the complete file.
The only hypotheses are the u64 limits of the format: type tag, values and key
count < 2^64 and file length < 2^64.
-/
namespace Fst.Props
open Fst Fst.E2E

/-- MAP / RAW `insert`: for every cache geometry, every type tag, every strictly
increasing key sequence (empty key, any length, any bytes, any fan-out) with
any u64 values: the build succeeds, the file opens as version 3 with that type,
`len()` is the number of keys, `verify()` succeeds, streaming everything yields
exactly the inserted entries in order, and `get`/`contains_key` agree with the
inserted map for every probe. -/
theorem C01_map (rows cols ty : Nat) (hty : ty < 2^64) (kvs : KV) (hs : SortedKV kvs)
    (hv : ∀ kv ∈ kvs, kv.2 < 2^64) (hn : kvs.length < 2^64) :
    ∃ s bytes, insertAll (BState.new rows cols) kvs = .ok s ∧ s.fileBytes ty = .ok bytes ∧
      (bytes.length < 2^64 →
        ∃ m, fstNew (Src.ofList bytes) = .ok m ∧ m.version = 3 ∧ m.ty = ty ∧
          m.len = kvs.length ∧ fstVerify m (Src.ofList bytes) = .ok () ∧
          (∃ s0, streamNew (byteAccess 3 (Src.ofList bytes)) autAlways m.rootAddr
              .unbounded .unbounded = some s0 ∧
            ∃ N, ∀ fuel, N ≤ fuel →
              streamCollect (byteAccess 3 (Src.ofList bytes)) autAlways m.rootAddr fuel s0 [] =
                some (kvs.map fun kv => (kv.1, kv.2, ()))) ∧
          (∀ key, fstGet (byteAccess 3 (Src.ofList bytes)) m.rootAddr key =
            some (lookupKV kvs key)) ∧
          (∀ key, fstContains (byteAccess 3 (Src.ofList bytes)) m.rootAddr key =
            some (kvs.any fun kv => kv.1 == key))) := by
  obtain ⟨s, bytes, e1, e2, h⟩ := map_file rows cols ty hty kvs hs hv hn
  exact ⟨s, bytes, e1, e2, fun hsz => by
    obtain ⟨m, R, _⟩ := h hsz
    exact ⟨m, R.opened, R.version, R.ty_eq, R.len_eq, R.verified, R.stream, R.get, R.contains⟩⟩

/-- SET / RAW `add`: non-decreasing keys, repeats collapse: the file holds the distinct keys (value 0) -/
theorem C01_set (rows cols ty : Nat) (hty : ty < 2^64) (ks : List Key) (hs : SortedKeysLe ks)
    (hn : (dedupKeys ks).length < 2^64) :
    ∃ s bytes, addAll (BState.new rows cols) ks = .ok s ∧ s.fileBytes ty = .ok bytes ∧
      (bytes.length < 2^64 →
        ∃ m, fstNew (Src.ofList bytes) = .ok m ∧ m.version = 3 ∧ m.ty = ty ∧
          m.len = (dedupKeys ks).length ∧ fstVerify m (Src.ofList bytes) = .ok () ∧
          (∃ s0, streamNew (byteAccess 3 (Src.ofList bytes)) autAlways m.rootAddr
              .unbounded .unbounded = some s0 ∧
            ∃ N, ∀ fuel, N ≤ fuel →
              streamCollect (byteAccess 3 (Src.ofList bytes)) autAlways m.rootAddr fuel s0 [] =
                some ((zeroKV (dedupKeys ks)).map fun kv => (kv.1, kv.2, ()))) ∧
          (∀ key, fstGet (byteAccess 3 (Src.ofList bytes)) m.rootAddr key =
            some (lookupKV (zeroKV (dedupKeys ks)) key)) ∧
          (∀ key, fstContains (byteAccess 3 (Src.ofList bytes)) m.rootAddr key =
            some ((zeroKV (dedupKeys ks)).any fun kv => kv.1 == key))) := by
  obtain ⟨s, bytes, e1, e2, h⟩ := set_file rows cols ty hty ks hs hn
  exact ⟨s, bytes, e1, e2, fun hsz => by
    obtain ⟨m, R⟩ := h hsz
    exact ⟨m, R.opened, R.version, R.ty_eq, by rw [R.len_eq]; simp [zeroKV], R.verified, R.stream,
      R.get, R.contains⟩⟩

/-- on every state reachable by accepted calls no call panics and `finish` succeeds -/
theorem C01_no_panic {s : BState} (hr : Reachable s) :
    (∀ k v tag, s.insert k v ≠ .error (.panic tag)) ∧ (∀ k tag, s.add k ≠ .error (.panic tag)) ∧
    (∃ s' root, s.finish = .ok (s', root)) ∧ (∀ ty, ∃ bytes, s.fileBytes ty = .ok bytes) := by
  refine ⟨fun k v tag h => ?_, fun k tag h => ?_, ?_, fun ty => file_exists hr ty⟩
  · rcases insert_cases hr k v with ⟨_, _, h'⟩ | ⟨_, _, _, h' | h'⟩ <;> rw [h] at h' <;> cases h'
  · rcases add_cases hr k with ⟨_, _, h'⟩ | ⟨_, _, _, h'⟩ <;> rw [h] at h' <;> cases h'
  · obtain ⟨s', root, h, _⟩ := build_layout_finish hr
    exact ⟨s', root, h⟩

/-- every output stored in an emitted node of a finished map build is bounded by every bound `M` of
the inserted values. (The invariant behind it, `InvB` in Proofs/BuildSide.lean, bounds the outputs held on
the unfinished stack as well; that is the reason why the builder's `+` cannot overflow on u64 values.) -/
theorem C01_value_bound (rows cols : Nat) (kvs : KV) (h : SortedKV kvs) (M : Nat)
    (hM : ∀ kv ∈ kvs, kv.2 ≤ M) :
    ∃ s s' root, insertAll (BState.new rows cols) kvs = .ok s ∧ s.finish = .ok (s', root) ∧
      ∀ e ∈ s'.out, e.node.fout ≤ M ∧ ∀ t ∈ e.node.trans, t.out ≤ M := by
  obtain ⟨s, s', root, e, f, _, _, _, hb⟩ := build_map rows cols h
  exact ⟨s, s', root, e, f, hb M hM⟩

/-- the key order is a strict order -/
theorem C01_lexLt_irrefl (k : Key) : lexLt k k = false := lexLt_irrefl k
theorem C01_lexLt_trans (a b c : Key) (h1 : lexLt a b = true) (h2 : lexLt b c = true) :
    lexLt a c = true := lexLt_trans h1 h2

/-- the hypotheses of `C01_map` hold of the 4-key example `exKvs` (empty key, shared prefix); `map_file` is
instantiated on it, with geometry 1×1, in Proofs/EndToEnd.lean -/
example : SortedKV exKvs ∧ (∀ kv ∈ exKvs, kv.2 < 2^64) := ⟨exKvs_sorted, exKvs_values⟩

end Fst.Props
