import FstVerif.Proofs.Seek
import FstVerif.Proofs.Wrappers
import FstVerif.Proofs.EndToEnd
/-
C03 — range streams. Statements here; proofs in Proofs/Stream.lean (explicit
stack = denotation, cut-off at the upper bound) and Proofs/Seek.lean (lower
bound). About any node access representing a good store (builder output is
one: Proofs/BuildSide.lean, Proofs/Codec.lean).
-/
namespace Fst.Props
open Fst
variable {N : Type} {s : Store} {den : Nat → KV} {acc : NodeAccess N}

/-- for every lower bound (none / ge / gt) and upper bound (none / le / lt) over
arbitrary byte strings, the range stream never panics, yields exactly the
entries satisfying both bounds, in the order of the denotation, and then ends -/
theorem C03_range (hg : GoodStore s den) (hr : Represents acc s) (root : Nat)
    (hroot : root = 0 ∨ ∃ n, (root, n) ∈ s) (min max : Bound) :
    ∃ s0, streamNew acc autAlways root min max = some s0 ∧
    ∃ N, ∀ fuel, N ≤ fuel →
      streamCollect acc autAlways root fuel s0 [] =
        some (((den root).filter fun kv => lowerOK min kv.1 && upperOK max kv.1).map
                fun kv => (kv.1, kv.2, ())) := stream_correct_always hg hr root hroot min max

/-- the result list of `stream_correct` at `AlwaysMatch` (the list of `C03_range`, with the constant
automaton terms left in) has strictly ascending keys; the statement is about that list, no stream
occurs in it -/
theorem C03_ascending (hg : GoodStore s den) (root : Nat) (hroot : root = 0 ∨ ∃ n, (root, n) ∈ s)
    (min max : Bound) :
    (((den root).filter fun kv => lowerOK min kv.1 && upperOK max kv.1 && autAlways.accepts kv.1).map
        fun kv => (kv.1, kv.2, autAlways.run autAlways.start kv.1)).Pairwise
      fun a b => lexLt a.1 b.1 = true := stream_result_ascending hg root hroot autAlways min max

/-- what the bound predicates mean -/
theorem C03_bounds (b k : Key) :
    lowerOK .unbounded k = true ∧ lowerOK (.included b) k = !lexLt k b ∧ lowerOK (.excluded b) k = lexLt b k ∧
    upperOK .unbounded k = true ∧ upperOK (.included b) k = !lexLt b k ∧ upperOK (.excluded b) k = lexLt k b := by
  simp [lowerOK, upperOK, Bound.exceededBy]

/-- setting the same kind of bound twice uses the last setting -/
theorem C03_last_setting_wins (r : RangeSpec) (a b : Key) :
    (r.ge a).ge b = r.ge b ∧ (r.gt a).ge b = r.ge b ∧ (r.ge a).gt b = r.gt b ∧ (r.gt a).gt b = r.gt b ∧
    (r.le a).le b = r.le b ∧ (r.lt a).le b = r.le b ∧ (r.le a).lt b = r.lt b ∧ (r.lt a).lt b = r.lt b :=
  ⟨rfl, rfl, rfl, rfl, rfl, rfl, rfl, rfl⟩

theorem C03_setters_independent (r : RangeSpec) (a b : Key) :
    ((r.ge a).le b).min = .included a ∧ ((r.le b).ge a).max = .included b ∧
    ((r.gt a).lt b).min = .excluded a ∧ ((r.lt b).gt a).max = .excluded b :=
  ⟨rfl, rfl, rfl, rfl⟩

/-- after the stream has ended it keeps returning `None` -/
theorem C03_stays_done (hg : GoodStore s den) (hr : Represents acc s) (root : Nat)
    (hroot : root = 0 ∨ ∃ n, (root, n) ∈ s) (min max : Bound) :
    ∃ s0, streamNew acc autAlways root min max = some s0 ∧
    ∃ N, ∀ fuel, N ≤ fuel → ∃ sEnd items,
      streamDrain acc autAlways root fuel s0 [] = some (items, sEnd) ∧
      ∀ fuel', streamNext acc autAlways root (fuel' + 1) sEnd = some (none, sEnd) := by
  obtain ⟨s0, h0, N, hN⟩ := fused_of_correct (stream_correct (A := autAlways) hg hr root hroot
    autAlways_contract.1 autAlways_contract.2 min max)
  exact ⟨s0, h0, N, fun fuel hf => by
    obtain ⟨sEnd, h1, h2⟩ := hN fuel hf
    exact ⟨sEnd, _, h1, h2⟩⟩

/-- END TO END, on the bytes of the file a builder writes: every range over every sorted map -/
theorem C03_file (rows cols ty : Nat) (hty : ty < 2^64) (kvs : KV) (hs : SortedKV kvs)
    (hv : ∀ kv ∈ kvs, kv.2 < 2^64) (hn : kvs.length < 2^64) :
    ∃ s bytes, insertAll (BState.new rows cols) kvs = .ok s ∧ s.fileBytes ty = .ok bytes ∧
      (bytes.length < 2^64 →
        ∃ m, fstNew (Src.ofList bytes) = .ok m ∧
          ∀ (min max : Bound),
            ∃ s0, streamNew (byteAccess 3 (Src.ofList bytes)) autAlways m.rootAddr min max
                = some s0 ∧
            ∃ N, ∀ fuel, N ≤ fuel →
              streamCollect (byteAccess 3 (Src.ofList bytes)) autAlways m.rootAddr fuel s0 [] =
                some ((kvs.filter fun kv => lowerOK min kv.1 && upperOK max kv.1).map
                      fun kv => (kv.1, kv.2, ()))) := by
  obtain ⟨s, bytes, h1, h2, h⟩ := E2E.map_file rows cols ty hty kvs hs hv hn
  exact ⟨s, bytes, h1, h2, fun hsz => by
    obtain ⟨m, R, _⟩ := h hsz
    exact ⟨m, R.opened, R.range⟩⟩

example := C03_file 1 1 7 (by decide) E2E.exKvs E2E.exKvs_sorted E2E.exKvs_values (by decide)

example : GoodStore StreamExample.exStore StreamExample.exDen := StreamExample.exGood


/-! ### the wrapper layer a user calls (src/map.rs, src/set.rs; Model/Wrappers.lean) -/

/-- `map.range().ge/gt/le/lt(..)…into_stream()` for every chain of setter calls (every
`RangeSpec` is one, `C03_rangeSpec_reachable`): exactly the entries within the bounds -/
theorem C03_map_range (hg : GoodStore s den) (hr : Represents acc s) (root : Nat)
    (hroot : root = 0 ∨ ∃ n, (root, n) ∈ s) (rs : RangeSpec) :
    ∃ N, ∀ fuel, N ≤ fuel → Wrap.mapRange acc root rs fuel =
      some ((den root).filter fun kv => lowerOK rs.min kv.1 && upperOK rs.max kv.1) :=
  Wrap.mapRange_correct hg hr root hroot rs

/-- `set.range()…`: the keys of the same entries -/
theorem C03_set_range (hg : GoodStore s den) (hr : Represents acc s) (root : Nat)
    (hroot : root = 0 ∨ ∃ n, (root, n) ∈ s) (rs : RangeSpec) :
    ∃ N, ∀ fuel, N ≤ fuel → Wrap.setRange acc root rs fuel =
      some (((den root).filter fun kv => lowerOK rs.min kv.1 && upperOK rs.max kv.1).map (·.1)) :=
  Wrap.setRange_correct hg hr root hroot rs

theorem C03_rangeSpec_reachable (rs : RangeSpec) : ∃ l : List Wrap.Setter, Wrap.applySetters l = rs :=
  Wrap.rangeSpec_reachable rs

/-- zipping `Map::keys` with `Map::values` gives `Map::stream` back (that the three have the same
length is `Wrap.keys_values_zip`, not this statement); the `into_byte_keys` / `into_values`
collectors likewise -/
theorem C03_keys_values (raw : List (Key × Nat)) :
    (Wrap.mapKeys raw).zip (Wrap.mapValues raw) = Wrap.mapStream raw ∧
    (Wrap.intoByteKeys raw).zip (Wrap.intoValues raw) = Wrap.intoByteVec raw :=
  ⟨(Wrap.keys_values_zip raw).1, (Wrap.intoByteKeys_intoValues_zip raw).1⟩


/-- END TO END at the wrapper level: `Map::range()` with any setters, over the BYTES of the file a
map builder writes, yields exactly the inserted entries within the bounds — and `Set::range()` their keys -/
theorem C03_map_range_file (rows cols ty : Nat) (hty : ty < 2^64) (kvs : KV) (hs : SortedKV kvs)
    (hv : ∀ kv ∈ kvs, kv.2 < 2^64) (hn : kvs.length < 2^64) :
    ∃ s bytes, insertAll (BState.new rows cols) kvs = .ok s ∧ s.fileBytes ty = .ok bytes ∧
      (bytes.length < 2^64 →
        ∃ m, fstNew (Src.ofList bytes) = .ok m ∧
          ∀ rs : RangeSpec, ∃ N, ∀ fuel, N ≤ fuel →
            Wrap.mapRange (byteAccess 3 (Src.ofList bytes)) m.rootAddr rs fuel =
              some (kvs.filter fun kv => lowerOK rs.min kv.1 && upperOK rs.max kv.1) ∧
            Wrap.setRange (byteAccess 3 (Src.ofList bytes)) m.rootAddr rs fuel =
              some ((kvs.filter fun kv => lowerOK rs.min kv.1 && upperOK rs.max kv.1).map (·.1))) := by
  obtain ⟨s, bytes, e1, e2, h⟩ := C03_file rows cols ty hty kvs hs hv hn
  refine ⟨s, bytes, e1, e2, fun hsz => ?_⟩
  obtain ⟨m, hm, hall⟩ := h hsz
  refine ⟨m, hm, fun rs => ?_⟩
  obtain ⟨⟨N1, h1⟩, -, ⟨N2, h2⟩, -⟩ := Wrap.searches_of_stream (fun _ => ()) (hall rs.min rs.max)
  exact ⟨N1 + N2, fun fuel hf => ⟨h1 fuel (by omega), h2 fuel (by omega)⟩⟩

end Fst.Props
