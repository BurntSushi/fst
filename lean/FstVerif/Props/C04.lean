import FstVerif.Proofs.Seek
import FstVerif.Proofs.Wrappers
import FstVerif.Proofs.EndToEnd
import FstVerif.Proofs.Aut
import FstVerif.Proofs.EofLift
/-
C04 — automaton search. Statements here; proofs in Proofs/Stream.lean and Proofs/Seek.lean
(`stream_correct`), Proofs/EofLift.lean (automata with an `accept_eof` hook), Proofs/Aut.lean
(the shipped automata meet the contract), Proofs/Wrappers.lean (`Map` / `Set` level) and
Proofs/EndToEnd.lean (on the bytes of a built file). The automaton is a universally quantified
variable constrained only by the contract of the property.
-/
namespace Fst.Props
open Fst
variable {N σ : Type} {s : Store} {den : Nat → KV} {acc : NodeAccess N}

/-- the contract: no end-of-key hook, `can_match` never false while a match is still reachable -/
structure Contract (A : Aut σ) : Prop where
  noEof : ∀ x, A.acceptEof x = none
  canSound : ∀ x, A.canMatch x = false → ∀ w, A.isMatch (A.run x w) = false

/-- for every contract-abiding automaton and every bounds: exactly the in-range
accepted keys, ascending, with their values and with the automaton state reached
after each key (`search_with_state`); no panic; the stream ends -/
theorem C04_search (A : Aut σ) (hA : Contract A) (hg : GoodStore s den) (hr : Represents acc s)
    (root : Nat) (hroot : root = 0 ∨ ∃ n, (root, n) ∈ s) (min max : Bound) :
    ∃ s0, streamNew acc A root min max = some s0 ∧
    ∃ N, ∀ fuel, N ≤ fuel →
      streamCollect acc A root fuel s0 [] =
        some (((den root).filter fun kv => lowerOK min kv.1 && upperOK max kv.1 && A.accepts kv.1).map
                fun kv => (kv.1, kv.2, A.run A.start kv.1)) :=
  stream_correct hg hr root hroot hA.noEof hA.canSound min max

/-- END TO END, on the bytes of the file a builder writes: every contract-abiding automaton,
every bounds, every sorted map, every cache geometry -/
theorem C04_file (rows cols ty : Nat) (hty : ty < 2^64) (kvs : KV) (hs : SortedKV kvs)
    (hv : ∀ kv ∈ kvs, kv.2 < 2^64) (hn : kvs.length < 2^64) :
    ∃ s bytes, insertAll (BState.new rows cols) kvs = .ok s ∧ s.fileBytes ty = .ok bytes ∧
      (bytes.length < 2^64 →
        ∃ m, fstNew (Src.ofList bytes) = .ok m ∧
          ∀ {σ : Type} (A : Aut σ), (∀ x, A.acceptEof x = none) →
            (∀ x, A.canMatch x = false → ∀ w, A.isMatch (A.run x w) = false) →
            ∀ (min max : Bound),
            ∃ s0, streamNew (byteAccess 3 (Src.ofList bytes)) A m.rootAddr min max = some s0 ∧
            ∃ N, ∀ fuel, N ≤ fuel →
              streamCollect (byteAccess 3 (Src.ofList bytes)) A m.rootAddr fuel s0 [] =
                some ((kvs.filter fun kv =>
                        lowerOK min kv.1 && upperOK max kv.1 && A.accepts kv.1).map
                      fun kv => (kv.1, kv.2, A.run A.start kv.1))) := by
  obtain ⟨s, bytes, h1, h2, h⟩ := E2E.map_file rows cols ty hty kvs hs hv hn
  exact ⟨s, bytes, h1, h2, fun hsz => by
    obtain ⟨m, R, _⟩ := h hsz
    exact ⟨m, R.opened, R.search⟩⟩

/-! ### automata that override `accept_eof` (the hook `next_with` consults at the end of a non-empty key)

`C04_search` assumes `noEof`. The theorems below drop that assumption: for an ARBITRARY
automaton the stream yields the in-range keys accepted in the sense of `Aut.acceptsEof`
(the hook's state decides for a non-empty key when the hook fires; the empty key never consults
it — exactly what `StreamWithState::next_with` does), with the state reached BEFORE the hook.
Proof: simulation with the hook-free automaton `eofLift A` over `σ × Bool` (Proofs/EofLift.lean). -/

/-- the contract for an automaton with a hook: `can_match = false` rules out every later match,
with or without the hook -/
structure ContractEof (A : Aut σ) : Prop where
  canSound : ∀ x, A.canMatch x = false →
    ∀ w, A.isMatch (A.run x w) = false ∧ A.eofMatch (A.run x w) = false

theorem C04_search_eof (A : Aut σ) (hA : ContractEof A) (hg : GoodStore s den) (hr : Represents acc s)
    (root : Nat) (hroot : root = 0 ∨ ∃ n, (root, n) ∈ s) (min max : Bound) :
    ∃ s0, streamNew acc A root min max = some s0 ∧
    ∃ N, ∀ fuel, N ≤ fuel →
      streamCollect acc A root fuel s0 [] =
        some (((den root).filter fun kv => lowerOK min kv.1 && upperOK max kv.1 && A.acceptsEof kv.1).map
                fun kv => (kv.1, kv.2, A.run A.start kv.1)) :=
  stream_correct_eof hg hr root hroot hA.canSound min max

/-- the same for `streamDrain`, the collecting loop that also hands back the state the stream object
is left in; from that state `next` (`streamNext`) keeps returning `None` for ever (hooked automaton) -/
theorem C04_drain_then_done_eof (A : Aut σ) (hA : ContractEof A) (hg : GoodStore s den)
    (hr : Represents acc s) (root : Nat) (hroot : root = 0 ∨ ∃ n, (root, n) ∈ s) (min max : Bound) :
    ∃ s0, streamNew acc A root min max = some s0 ∧
    ∃ N, ∀ fuel, N ≤ fuel → ∃ sEnd,
      streamDrain acc A root fuel s0 [] =
        some (((den root).filter fun kv =>
                lowerOK min kv.1 && upperOK max kv.1 && A.acceptsEof kv.1).map
                fun kv => (kv.1, kv.2, A.run A.start kv.1), sEnd) ∧
      ∀ fuel', streamNext acc A root (fuel' + 1) sEnd = some (none, sEnd) :=
  fused_of_correct (stream_correct_eof hg hr root hroot hA.canSound min max)

/-- without a hook the two notions of acceptance coincide, and `Contract` gives `ContractEof`:
`C04_search_eof` specialises to `C04_search` -/
theorem C04_eof_conservative (A : Aut σ) (hA : Contract A) :
    A.acceptsEof = A.accepts ∧ ContractEof A := by
  refine ⟨stream_correct_eof_conservative A hA.noEof, ⟨fun x hx w => ?_⟩⟩
  have h := hA.canSound x hx w
  exact ⟨h, (Aut.eofMatch_eq hA.noEof _).trans h⟩

/-- one step of the real loop with a hooked automaton IS one step with the hook-free lifting
(no invariant, every state): the simulation on which `C04_search_eof` rests -/
theorem C04_eof_step (A : Aut σ) (root : Nat) (s' : SState N (σ × Bool)) :
    streamStep acc A root (projS s') = projRes (streamStep acc (eofLift A) root s') :=
  streamStep_proj acc A root s'

/-- END TO END with a hook, on the bytes of the file a builder writes -/
theorem C04_file_eof (rows cols ty : Nat) (hty : ty < 2^64) (kvs : KV) (hs : SortedKV kvs)
    (hv : ∀ kv ∈ kvs, kv.2 < 2^64) (hn : kvs.length < 2^64) :
    ∃ s bytes, insertAll (BState.new rows cols) kvs = .ok s ∧ s.fileBytes ty = .ok bytes ∧
      (bytes.length < 2^64 →
        ∃ m, fstNew (Src.ofList bytes) = .ok m ∧
          ∀ {σ : Type} (A : Aut σ), ContractEof A → ∀ (min max : Bound),
            ∃ s0, streamNew (byteAccess 3 (Src.ofList bytes)) A m.rootAddr min max = some s0 ∧
            ∃ N, ∀ fuel, N ≤ fuel →
              streamCollect (byteAccess 3 (Src.ofList bytes)) A m.rootAddr fuel s0 [] =
                some ((kvs.filter fun kv =>
                        lowerOK min kv.1 && upperOK max kv.1 && A.acceptsEof kv.1).map
                      fun kv => (kv.1, kv.2, A.run A.start kv.1))) := by
  obtain ⟨s, bytes, e1, e2, h⟩ := C04_file rows cols ty hty kvs hs hv hn
  refine ⟨s, bytes, e1, e2, fun hsz => ?_⟩
  obtain ⟨m, hm, hall⟩ := h hsz
  refine ⟨m, hm, fun {σ} A hA min max => ?_⟩
  exact eof_transport (hall (eofLift A) (fun _ => rfl) (eofLift_canSound A hA.canSound) min max)

/-- the crate's combinators do NOT forward the hook (`Union`, `Intersection`, `Complement`,
`StartsWith` keep the trait's default `accept_eof`): a hooked automaton inside a combinator is
searched by its plain language (`C04_search` applies). Observed on the real crate by the
`co(dfe:…)` / `un(dfe:…,…)` cases of the correspondence. -/
theorem C04_combinators_drop_hook {τ : Type} (A : Aut σ) (B : Aut τ) :
    (∀ x, (autUnion A B).acceptEof x = none) ∧ (∀ x, (autInter A B).acceptEof x = none) ∧
    (∀ x, (autCompl A).acceptEof x = none) ∧ (∀ x, (autStartsWith A).acceptEof x = none) :=
  ⟨fun _ => rfl, fun _ => rfl, fun _ => rfl, fun _ => rfl⟩

/-- non-vacuity: an automaton with a hook AND a pruning state meets `ContractEof`, and the hook
changes what is accepted -/
def hookPrune : Aut Nat where
  start := 0
  isMatch := fun x => x == 7
  canMatch := fun x => x != 9
  willAlwaysMatch := fun _ => false
  accept := fun x b => if x == 9 then 9 else if b == 0 then 9 else if x < 3 then x + 1 else x
  acceptEof := fun x => if x == 2 then some 7 else none

theorem hookPrune_run9 (w : Key) : hookPrune.run 9 w = 9 := run_fixed (fun _ => rfl) w

example : ContractEof hookPrune := by
  refine ⟨fun x hx w => ?_⟩
  have hx9 : x = 9 := by simpa [hookPrune] using hx
  subst hx9
  rw [hookPrune_run9]
  decide
example : hookPrune.acceptsEof [1, 2] = true ∧ hookPrune.accepts [1, 2] = false ∧
    hookPrune.acceptsEof [1, 0, 2] = false := by decide

/-- it suffices that the hint is sound on states reachable from the start state -/
theorem C04_search_reachable (A : Aut σ) (hEof : ∀ x, A.acceptEof x = none)
    (hCan : ∀ p, A.canMatch (A.run A.start p) = false → ∀ w, A.isMatch (A.run (A.run A.start p) w) = false)
    (hg : GoodStore s den) (hr : Represents acc s)
    (root : Nat) (hroot : root = 0 ∨ ∃ n, (root, n) ∈ s) (min max : Bound) :
    ∃ s0, streamNew acc A root min max = some s0 ∧
    ∃ N, ∀ fuel, N ≤ fuel →
      streamCollect acc A root fuel s0 [] =
        some (((den root).filter fun kv => lowerOK min kv.1 && upperOK max kv.1 && A.accepts kv.1).map
                fun kv => (kv.1, kv.2, A.run A.start kv.1)) :=
  stream_correct_reach hg hr root hroot hEof hCan min max

/-- the result does not depend on how precise the pruning hints are -/
theorem C04_hint_independent (A B : Aut σ) (hA : Contract A) (hB : Contract B)
    (hstart : A.start = B.start) (hmatch : A.isMatch = B.isMatch) (haccept : A.accept = B.accept)
    (hg : GoodStore s den) (hr : Represents acc s)
    (root : Nat) (hroot : root = 0 ∨ ∃ n, (root, n) ∈ s) (min max : Bound) :
    ∃ sA sB, streamNew acc A root min max = some sA ∧ streamNew acc B root min max = some sB ∧
    ∃ N, ∀ fuel, N ≤ fuel →
      streamCollect acc A root fuel sA [] = streamCollect acc B root fuel sB [] ∧
      (streamCollect acc A root fuel sA []).isSome = true :=
  stream_hint_independent hg hr root hroot hstart hmatch haccept hA.noEof hA.canSound hB.noEof hB.canSound min max

/-- the shipped automata meet the contract, and the contract is closed under the combinators -/
theorem C04_contract_of_hints (A : Aut σ) (h : HintsSound A) (he : ∀ x, A.acceptEof x = none) : Contract A :=
  ⟨he, h.1⟩
theorem C04_always_contract : Contract autAlways := ⟨fun _ => rfl, C18_hints_always.1⟩
theorem C04_str_contract (k : Key) : Contract (autStr k) := ⟨fun _ => rfl, (C18_hints_str k).1⟩
theorem C04_subseq_contract (k : Key) : Contract (autSubseq k) := ⟨fun _ => rfl, (C18_hints_subseq k).1⟩
theorem C04_union_contract {τ : Type} (A : Aut σ) (B : Aut τ) (hA : HintsSound A) (hB : HintsSound B) :
    Contract (autUnion A B) := ⟨fun _ => rfl, (C18_hints_union A B hA hB).1⟩
theorem C04_inter_contract {τ : Type} (A : Aut σ) (B : Aut τ) (hA : HintsSound A) (hB : HintsSound B) :
    Contract (autInter A B) := ⟨fun _ => rfl, (C18_hints_inter A B hA hB).1⟩
theorem C04_compl_contract (A : Aut σ) (hA : HintsSound A) :
    Contract (autCompl A) := ⟨fun _ => rfl, (C18_hints_compl A hA).1⟩
theorem C04_startswith_contract (A : Aut σ) (hA : HintsSound A) :
    Contract (autStartsWith A) := ⟨fun _ => rfl, (C18_hints_startswith A hA).1⟩


/-! ### the wrapper layer a user calls (src/map.rs, src/set.rs; Model/Wrappers.lean) -/

/-- `map.search(aut).ge/gt/le/lt(..)…into_stream()` -/
theorem C04_map_search {A : Aut σ} (hg : GoodStore s den) (hr : Represents acc s) (root : Nat)
    (hroot : root = 0 ∨ ∃ n, (root, n) ∈ s) (hA : Contract A) (rs : RangeSpec) :
    ∃ N, ∀ fuel, N ≤ fuel → Wrap.mapSearch acc A root rs fuel =
      some ((den root).filter fun kv => lowerOK rs.min kv.1 && upperOK rs.max kv.1 && A.accepts kv.1) :=
  (Wrap.searches_of_stream _ (stream_correct hg hr root hroot hA.1 hA.2 rs.min rs.max)).1

/-- `map.search_with_state(aut)…`: each entry with the automaton state reached after its key -/
theorem C04_map_search_with_state {A : Aut σ} (hg : GoodStore s den) (hr : Represents acc s) (root : Nat)
    (hroot : root = 0 ∨ ∃ n, (root, n) ∈ s) (hA : Contract A) (rs : RangeSpec) :
    ∃ N, ∀ fuel, N ≤ fuel → Wrap.mapSearchWithState acc A root rs fuel =
      some (((den root).filter fun kv => lowerOK rs.min kv.1 && upperOK rs.max kv.1 && A.accepts kv.1).map
        fun kv => (kv.1, kv.2, A.run A.start kv.1)) :=
  (Wrap.searches_of_stream _ (stream_correct hg hr root hroot hA.1 hA.2 rs.min rs.max)).2.1

/-- `set.search(aut)…` -/
theorem C04_set_search {A : Aut σ} (hg : GoodStore s den) (hr : Represents acc s) (root : Nat)
    (hroot : root = 0 ∨ ∃ n, (root, n) ∈ s) (hA : Contract A) (rs : RangeSpec) :
    ∃ N, ∀ fuel, N ≤ fuel → Wrap.setSearch acc A root rs fuel =
      some (((den root).filter fun kv => lowerOK rs.min kv.1 && upperOK rs.max kv.1 && A.accepts kv.1).map (·.1)) :=
  (Wrap.searches_of_stream _ (stream_correct hg hr root hroot hA.1 hA.2 rs.min rs.max)).2.2.1

/-- `set.search_with_state(aut)…` -/
theorem C04_set_search_with_state {A : Aut σ} (hg : GoodStore s den) (hr : Represents acc s) (root : Nat)
    (hroot : root = 0 ∨ ∃ n, (root, n) ∈ s) (hA : Contract A) (rs : RangeSpec) :
    ∃ N, ∀ fuel, N ≤ fuel → Wrap.setSearchWithState acc A root rs fuel =
      some (((den root).filter fun kv => lowerOK rs.min kv.1 && upperOK rs.max kv.1 && A.accepts kv.1).map
        fun kv => (kv.1, A.run A.start kv.1)) :=
  (Wrap.searches_of_stream _ (stream_correct hg hr root hroot hA.1 hA.2 rs.min rs.max)).2.2.2


/-- the four user-facing searches with a HOOKED automaton (`Map/Set::search(_with_state)` + setters) -/
theorem C04_wrappers_eof {A : Aut σ} (hg : GoodStore s den) (hr : Represents acc s) (root : Nat)
    (hroot : root = 0 ∨ ∃ n, (root, n) ∈ s) (hA : ContractEof A) (rs : RangeSpec) :
    let F := (den root).filter fun kv => lowerOK rs.min kv.1 && upperOK rs.max kv.1 && A.acceptsEof kv.1
    (∃ N, ∀ fuel, N ≤ fuel → Wrap.mapSearch acc A root rs fuel = some F) ∧
    (∃ N, ∀ fuel, N ≤ fuel → Wrap.mapSearchWithState acc A root rs fuel =
        some (F.map fun kv => (kv.1, kv.2, A.run A.start kv.1))) ∧
    (∃ N, ∀ fuel, N ≤ fuel → Wrap.setSearch acc A root rs fuel = some (F.map (·.1))) ∧
    (∃ N, ∀ fuel, N ≤ fuel → Wrap.setSearchWithState acc A root rs fuel =
        some (F.map fun kv => (kv.1, A.run A.start kv.1))) :=
  Wrap.searches_of_stream _ (stream_correct_eof hg hr root hroot hA.canSound rs.min rs.max)

/-- `hookDemo` (a non-trivial hook) meets the contract for an empty reason: its `canMatch` is
constantly `true`; `hookPrune` above is the instance with a pruning state -/
example : ∀ x, hookDemo.canMatch x = false →
    ∀ w, hookDemo.isMatch (hookDemo.run x w) = false ∧
      hookDemo.eofMatch (hookDemo.run x w) = false := by
  intro x hx; simp [hookDemo] at hx

/-- END TO END at the wrapper level: `Map::search(aut)` / `Map::search_with_state(aut)` with any
setters, over the BYTES of the file a map builder writes, for every contract-abiding automaton -/
theorem C04_map_search_file (rows cols ty : Nat) (hty : ty < 2^64) (kvs : KV) (hs : SortedKV kvs)
    (hv : ∀ kv ∈ kvs, kv.2 < 2^64) (hn : kvs.length < 2^64) :
    ∃ s bytes, insertAll (BState.new rows cols) kvs = .ok s ∧ s.fileBytes ty = .ok bytes ∧
      (bytes.length < 2^64 →
        ∃ m, fstNew (Src.ofList bytes) = .ok m ∧
          ∀ {σ : Type} (A : Aut σ), Contract A → ∀ rs : RangeSpec, ∃ N, ∀ fuel, N ≤ fuel →
            Wrap.mapSearch (byteAccess 3 (Src.ofList bytes)) A m.rootAddr rs fuel =
              some (kvs.filter fun kv => lowerOK rs.min kv.1 && upperOK rs.max kv.1 && A.accepts kv.1) ∧
            Wrap.mapSearchWithState (byteAccess 3 (Src.ofList bytes)) A m.rootAddr rs fuel =
              some ((kvs.filter fun kv => lowerOK rs.min kv.1 && upperOK rs.max kv.1 && A.accepts kv.1).map
                fun kv => (kv.1, kv.2, A.run A.start kv.1))) := by
  obtain ⟨s, bytes, e1, e2, h⟩ := C04_file rows cols ty hty kvs hs hv hn
  refine ⟨s, bytes, e1, e2, fun hsz => ?_⟩
  obtain ⟨m, hm, hall⟩ := h hsz
  refine ⟨m, hm, fun A hA rs => ?_⟩
  obtain ⟨⟨N1, h1⟩, ⟨N2, h2⟩, -⟩ :=
    Wrap.searches_of_stream _ (hall A hA.noEof hA.canSound rs.min rs.max)
  exact ⟨N1 + N2, fun fuel hf => ⟨h1 fuel (by omega), h2 fuel (by omega)⟩⟩

end Fst.Props
