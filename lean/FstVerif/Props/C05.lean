import FstVerif.Proofs.Ops
import FstVerif.Proofs.Wrappers
/-
C05 — set operations equal their mathematical definitions, for every
admissible tie-break of the heap (`PopSpec`: `BinaryHeap::pop` returns *a*
minimal slot). Statements here; proofs in Proofs/Ops.lean. The specification
side (`allKeys`, `occ`, `HasKey`) is defined from membership, not from merging.
-/
namespace Fst.Props
open Fst Fst.Ops

/-- the tie-break the driver uses is admissible -/
theorem C05_popMin : PopSpec popMin := popSpec_popMin

/-- union: every key present in at least one stream, once, ascending; each with
exactly one (stream index, value) entry per stream containing it -/
theorem C05_union (pop : PopFn) (hp : PopSpec pop) (streams : List KV) (hs : ∀ l ∈ streams, SortedKV l) :
    ∃ out, opCollect pop .union streams = some out ∧ out.map (·.1) = allKeys streams ∧
      ∀ k outs, (k, outs) ∈ out → outs.Perm (occ streams k) := Fst.C05_union pop hp streams hs

/-- intersection: the keys present in all streams -/
theorem C05_inter (pop : PopFn) (hp : PopSpec pop) (streams : List KV) (hs : ∀ l ∈ streams, SortedKV l) :
    ∃ out, opCollect pop .intersection streams = some out ∧
      out.map (·.1) = (allKeys streams).filter (fun k => decide ((occ streams k).length = streams.length)) ∧
      ∀ k outs, (k, outs) ∈ out → outs.Perm (occ streams k) := Fst.C05_inter pop hp streams hs

/-- symmetric difference: the keys present in an odd number of streams -/
theorem C05_symdiff (pop : PopFn) (hp : PopSpec pop) (streams : List KV) (hs : ∀ l ∈ streams, SortedKV l) :
    ∃ out, opCollect pop .symmetricDifference streams = some out ∧
      out.map (·.1) = (allKeys streams).filter (fun k => decide ((occ streams k).length % 2 = 1)) ∧
      ∀ k outs, (k, outs) ∈ out → outs.Perm (occ streams k) := Fst.C05_symdiff pop hp streams hs

/-- difference: the entries of the first stream whose key is in no other stream, with the first stream's value only -/
theorem C05_diff (pop : PopFn) (hp : PopSpec pop) (streams : List KV) (hne : streams ≠ [])
    (hs : ∀ l ∈ streams, SortedKV l) :
    opCollect pop .difference streams =
      some (((streams.head hne).filter (fun kv => !hasKeyB streams.tail kv.1)).map
        (fun kv => (kv.1, [⟨0, kv.2⟩]))) := Fst.C05_diff pop hp streams hne hs

theorem C05_disjoint (pop : PopFn) (hp : PopSpec pop) (a b : KV) (ha : SortedKV a) (hb : SortedKV b) :
    isDisjoint pop a b = true ↔ ∀ k, ¬ (KeyOf a k ∧ KeyOf b k) := Fst.C05_disjoint pop hp a b ha hb
theorem C05_subset (pop : PopFn) (hp : PopSpec pop) (a b : KV) (ha : SortedKV a) (hb : SortedKV b) :
    isSubset pop a b = true ↔ ∀ k, KeyOf a k → KeyOf b k := Fst.C05_subset pop hp a b ha hb
theorem C05_superset (pop : PopFn) (hp : PopSpec pop) (a b : KV) (ha : SortedKV a) (hb : SortedKV b) :
    isSuperset pop a b = true ↔ ∀ k, KeyOf b k → KeyOf a k := Fst.C05_superset pop hp a b ha hb

/-- the specification side: `allKeys` is the unique ascending list of the keys present somewhere -/
theorem C05_allKeys_spec (streams : List KV) :
    SortedK (allKeys streams) ∧ ∀ k, k ∈ allKeys streams ↔ HasKey streams k :=
  ⟨sorted_allKeys streams, fun k => mem_allKeys streams k⟩


/-! ### the set-level wrappers (`set::OpBuilder`, `Set::is_*`; Model/Wrappers.lean): key lists only,
specification by membership -/

theorem C05_set_union (pop : PopFn) (hp : PopSpec pop) (streams : List (List Key))
    (hs : ∀ l ∈ streams, SortedK l) :
    ∃ out, Wrap.setOp pop .union streams = some out ∧ SortedK out ∧ ∀ k, k ∈ out ↔ ∃ l ∈ streams, k ∈ l :=
  ⟨_, Wrap.setOp_union pop hp streams hs, Wrap.sorted_unionKeys streams, Wrap.mem_unionKeys streams⟩

/-- for no streams at all the result is empty (`Wrap.setOp_inter_nil`), hence `streams ≠ []` -/
theorem C05_set_inter (pop : PopFn) (hp : PopSpec pop) (streams : List (List Key)) (hne : streams ≠ [])
    (hs : ∀ l ∈ streams, SortedK l) :
    ∃ out, Wrap.setOp pop .intersection streams = some out ∧ SortedK out ∧ ∀ k, k ∈ out ↔ ∀ l ∈ streams, k ∈ l :=
  ⟨_, Wrap.setOp_inter pop hp streams hs, Wrap.sorted_interKeys streams,
    Wrap.mem_interKeys_of_ne streams hne⟩

theorem C05_set_symdiff (pop : PopFn) (hp : PopSpec pop) (streams : List (List Key))
    (hs : ∀ l ∈ streams, SortedK l) :
    ∃ out, Wrap.setOp pop .symmetricDifference streams = some out ∧ SortedK out ∧
      ∀ k, k ∈ out ↔ (streams.filter (k ∈ ·)).length % 2 = 1 :=
  ⟨_, Wrap.setOp_symdiff pop hp streams hs, Wrap.sorted_symDiffKeys streams,
    Wrap.mem_symDiffKeys streams⟩

theorem C05_set_diff (pop : PopFn) (hp : PopSpec pop) (first : List Key) (rest : List (List Key))
    (hs : ∀ l ∈ first :: rest, SortedK l) :
    ∃ out, Wrap.setOp pop .difference (first :: rest) = some out ∧ SortedK out ∧
      ∀ k, k ∈ out ↔ k ∈ first ∧ ∀ l ∈ rest, k ∉ l :=
  ⟨_, Wrap.setOp_diff pop hp first rest hs,
    Wrap.sorted_diffKeys (hs first (List.mem_cons_self ..)) rest, Wrap.mem_diffKeys first rest⟩

theorem C05_set_predicates (pop : PopFn) (hp : PopSpec pop) (a b : List Key) (ha : SortedK a) (hb : SortedK b) :
    (Wrap.setIsDisjoint pop a b = true ↔ ∀ k, ¬ (k ∈ a ∧ k ∈ b)) ∧
    (Wrap.setIsSubset pop a b = true ↔ ∀ k ∈ a, k ∈ b) ∧
    (Wrap.setIsSuperset pop a b = true ↔ ∀ k ∈ b, k ∈ a) :=
  ⟨Wrap.setIsDisjoint_iff pop hp a b ha hb, Wrap.setIsSubset_iff pop hp a b ha hb,
   Wrap.setIsSuperset_iff pop hp a b ha hb⟩

/-- `map::OpBuilder` is the raw operation on the same streams -/
theorem C05_map_op (pop : PopFn) (kind : OpKind) (streams : List KV) :
    Wrap.mapOp pop kind streams = opCollect pop kind streams := Wrap.mapOp_eq pop kind streams

end Fst.Props
