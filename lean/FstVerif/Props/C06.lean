import FstVerif.Proofs.EndToEnd
import FstVerif.Proofs.Glue
/-
C06 — builders enforce the ordering contract; rejected inserts leave no trace.
Statements here; proofs in Proofs/Build.lean (`insert_result`, `add_result`
on every reachable state; `Reachable` = new + accepted insert/add calls) and
by construction of the state machine (an error returns no new state).
-/
namespace Fst.Props
open Fst

/-- MAP builder, on every reachable state: `insert k v` is accepted iff `k` is strictly
greater than the last accepted key; otherwise it fails with exactly DuplicateKey{got = k}
(equal) or OutOfOrder{previous = last, got = k} (smaller) -/
theorem C06_insert_iff {s : BState} (h : Reachable s) (k : Key) (v : Nat) :
    match s.last with
    | none => ∃ s', s.insert k v = .ok s'
    | some last =>
      if lexLt last k then ∃ s', s.insert k v = .ok s'
      else if k = last then s.insert k v = .error (.duplicateKey k)
      else s.insert k v = .error (.outOfOrder last k) := insert_result h k v

/-- SET builder: `add k` is accepted iff `k` is greater than or equal to the last accepted
key (a repeat is accepted); otherwise exactly OutOfOrder{previous = last, got = k} -/
theorem C06_add_iff {s : BState} (h : Reachable s) (k : Key) :
    match s.last with
    | none => ∃ s', s.add k = .ok s'
    | some last =>
      if lexLe last k then ∃ s', s.add k = .ok s'
      else s.add k = .error (.outOfOrder last k) := add_result h k

/-- a rejected call is the identity on the whole builder (pure state AND writer): nothing
is written, counted or checksummed; the builder behaves as if the call never happened -/
theorem C06_reject_identity (x : IOB) (e : BErr) :
    (x.step (.error e)).1 = x ∧ (x.step (.error e)).2 = .error (.fst e) := ⟨rfl, rfl⟩

theorem C06_rejected_insert_writes_nothing (x : IOB) (k : Key) (v : Nat) (e : BErr)
    (h : x.b.insert k v = .error e) : (x.insert k v).1 = x :=
  IOB.insert_error x k v e h

theorem C06_rejected_add_writes_nothing (x : IOB) (k : Key) (e : BErr)
    (h : x.b.add k = .error e) : (x.add k).1 = x :=
  IOB.add_error x k e h

/-- repeated keys on a set builder are not counted: after any accepted non-decreasing sequence the
file opens and its key count is the number of distinct keys (the content: `C01_set`) -/
theorem C06_set_repeat_noop (rows cols ty : Nat) (hty : ty < 2^64) (ks : List Key)
    (hs : SortedKeysLe ks) (hn : (dedupKeys ks).length < 2^64) :
    ∃ s bytes, addAll (BState.new rows cols) ks = .ok s ∧ s.fileBytes ty = .ok bytes ∧
      (bytes.length < 2^64 → ∃ m, fstNew (Src.ofList bytes) = .ok m ∧ m.len = (dedupKeys ks).length) := by
  obtain ⟨s, bytes, h1, h2, h⟩ := E2E.set_file rows cols ty hty ks hs hn
  exact ⟨s, bytes, h1, h2, fun hsz => by
    obtain ⟨m, R⟩ := h hsz
    exact ⟨m, R.opened, by rw [R.len_eq]; simp [zeroKV]⟩⟩

/-- the fold of single `insert` calls, `insertAll`, stops at the first rejected item with that item's
error. (That `extend_iter` / `extend_stream` / `from_iter` are this fold, `BState.extendInsert`, is
`extendInsert_ok` / `extendInsert_err` in Proofs/Frontends.lean and `C15_frontends_map`.) -/
theorem C06_extend_stops_at_first (s : BState) (kv : Key × Nat) (rest : KV) (e : BErr)
    (h : s.insert kv.1 kv.2 = .error e) : insertAll s (kv :: rest) = .error e := by
  simp [insertAll, h]

theorem C06_extend_continues (s s' : BState) (kv : Key × Nat) (rest : KV)
    (h : s.insert kv.1 kv.2 = .ok s') : insertAll s (kv :: rest) = insertAll s' rest := by
  simp [insertAll, h]

example : Reachable (BState.new 2 2) := Reachable.new 2 2

/-! ### by-reference iterators (`b.extend_iter(&mut it)` again after each error; Model/Glue.lean) -/

/-- handing the SAME iterator to `extend_iter` again and again until it is exhausted loses nothing
but the rejected items: the builder ends in the state the single calls reach (a rejected call
leaves it alone), and the successive calls return exactly the errors of the rejected items, in
order, followed by `Ok` -/
theorem C06_resume (s : BState) (calls : List BCall) :
    (s.resume calls []).1 = calls.foldl Glue.step s ∧
    (s.resume calls []).2 = Glue.rejections s calls ++ [.ok ()] := Glue.resume_spec s calls

/-- with no rejected item, one `extend_iter` call is the insert loop -/
theorem C06_resume_all_accepted (s : BState) (kvs : KV) (h : Glue.rejections s (Glue.insCalls kvs) = []) :
    ∃ final, s.resume (Glue.insCalls kvs) [] = (final, [.ok ()]) ∧ s.extendInsert kvs = (final, .ok ()) ∧
      final = (Glue.insCalls kvs).foldl Glue.step s := Glue.resume_ins_eq_extendInsert s kvs h

end Fst.Props
