import FstVerif.Proofs.Sink
import FstVerif.Proofs.Crc
/-
C07 — the bytes a sink ends up with do not depend on how it accepts writes.
Statements here, derived from Proofs/Sink.lean (write_all over scripted sinks,
CountingWriter) with the chunking law of the checksum from Proofs/Crc.lean.
-/
namespace Fst.Props
open Fst Fst.SinkProofs

/-- discharges the hypothesis `ChunkLaw` of Proofs/Sink.lean -/
theorem C07_chunk_law : ChunkLaw := fun s a b => Fst.C08_chunking s a b

/-- for every benign script (each call accepts ≥ 1 byte or is Interrupted), every
prefill, every call sequence that the pure builder accepts: the builder over
that sink succeeds, and the sink holds prefill ++ the in-memory build's bytes -/
theorem C07_bytes (p : List UInt8) (script : List Resp) (hb : Benign script)
    (ty rows cols : Nat) (calls : List Call) (b : BState) (bytes : List UInt8)
    (hrun : BState.run (BState.new rows cols) calls = .ok b) (hfile : b.fileBytes ty = .ok bytes) :
    ∃ cw x0 x s, IOB.new (Sink.new p script) ty rows cols = (cw, .ok x0) ∧
      IOB.run x0 calls = some x ∧ x.b = b ∧ x.intoInner = (s, .ok ()) ∧
      s.held = (p ++ bytes).toArray :=
  Fst.SinkProofs.C07_bytes C07_chunk_law p script hb ty rows cols calls b bytes hrun hfile

/-- `bytes_written()` equals the number of bytes the sink has accepted, after any
sequence of calls (accepted, rejected or failed) over ANY script -/
theorem C07_count (prefill : Nat) (calls : List Call) (x : IOB) (h : CountInv prefill x.cw) :
    CountInv prefill (IOB.runAny x calls).cw := by
  induction calls generalizing x with
  | nil => exact h
  | cons c cs ih =>
    obtain ⟨_, _, hr, _⟩ := step_ran x (BState.call x.b c)
    exact ih _ (by rw [IOB.call_eq]; exact h.ran hr)

theorem C07_count_init (sink : Sink) (ty rows cols : Nat) :
    CountInv sink.held.size (IOB.new sink ty rows cols).1 := by
  fun_cases IOB.new sink ty rows cols with  -- header written / write failed
  | case1 cw h => obtain ⟨_, _, hr, _⟩ := CW.writeChunks_ran _ _ h; exact (CountInv.new sink).ran hr
  | case2 cw e h => obtain ⟨_, _, hr, _⟩ := CW.writeChunks_ran _ _ h; exact (CountInv.new sink).ran hr

/-- `write_all` never runs out of the model's fuel -/
theorem C07_write_all_terminates (c : CW) (buf : List UInt8) :
    writeAllWith CW.write (fuelFor c.sink buf) c buf = some (c.writeAll buf) := writeAll_fuel c buf

end Fst.Props
