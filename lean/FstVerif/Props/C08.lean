import FstVerif.Proofs.Crc
import FstVerif.Proofs.Open
/-
C08 — checksums. Statements here; proofs in Proofs/Crc.lean against the
bit-by-bit definition of CRC-32C in Spec/Crc.lean. The tables the proofs talk
about (`Gen.CRC_TABLE`, `Gen.CRC_TABLE16`) are regenerated from the compiled
crate on every run; `C08_tables_pinned` re-proves that they are the Castagnoli
tables.
-/
namespace Fst.Props
open Fst

/-- the tables compiled into the crate are the CRC-32C (Castagnoli) tables -/
theorem C08_tables_pinned : Gen.CRC_TABLE = Spec.makeTable ∧ Gen.CRC_TABLE16 = Spec.makeTable16 :=
  ⟨CrcP.table_pinned, CrcP.table16_pinned⟩

/-- slice-by-16 = bitwise CRC-32C, for every buffer of every length (both sides of the 16-byte fast path) -/
theorem C08_slice16 (prev : UInt32) (buf : List UInt8) :
    crc32cSlice16 prev buf = Spec.crcBitwise prev buf := Fst.C08_slice16 prev buf

/-- the mask is the Snappy-style mask -/
theorem C08_mask (x : UInt32) : maskedSum x = Spec.mask x := rfl

/-- the checksum does not depend on how the data was chunked while being written -/
theorem C08_chunking (s : Summer) (a b : List UInt8) : (s.update a).update b = s.update (a ++ b) :=
  Fst.C08_chunking s a b

/-- altering any single byte changes the masked checksum of the data -/
theorem C08_single_byte (s : Summer) (pre post : List UInt8) (x y : UInt8) (hxy : x ≠ y) :
    (s.update (pre ++ x :: post)).masked ≠ (s.update (pre ++ y :: post)).masked :=
  Fst.C08_masked_single_byte pre post x y hxy s.sum

/-- so does any burst of up to four bytes -/
theorem C08_burst (pre post w1 w2 : List UInt8) (hl : w1.length = w2.length) (h4 : w1.length ≤ 4)
    (hne : w1 ≠ w2) (prev : UInt32) :
    maskedSum (crc32cSlice16 prev (pre ++ w1 ++ post)) ≠ maskedSum (crc32cSlice16 prev (pre ++ w2 ++ post)) :=
  fun h => Fst.C08_burst pre post w1 w2 hl h4 hne prev (maskedSum_injective _ _ h)

-- `ho`, `ho'` (both files open) belong to the claim as stated; the proof needs only `hck`
set_option linter.unusedVariables false in
/-- corruption is never certified: if a file opens and verifies, then every file that
differs from it in exactly one byte BEFORE the trailing checksum and still opens with
the same stored checksum does not verify -/
theorem C08_corruption_detected (pre post : List UInt8) (x y : UInt8) (hxy : x ≠ y) (ck : List UInt8)
    (hck : ck.length = 4) (m m' : Meta)
    (ho : fstNew (Src.ofList (pre ++ x :: post ++ ck)) = .ok m)
    (ho' : fstNew (Src.ofList (pre ++ y :: post ++ ck)) = .ok m')
    (hsame : m'.checksum = m.checksum)
    (hv : fstVerify m (Src.ofList (pre ++ x :: post ++ ck)) = .ok ()) :
    fstVerify m' (Src.ofList (pre ++ y :: post ++ ck)) ≠ .ok () := by
  rw [OpenProofs.fstVerify_ok_iff _ _ _ hck] at hv
  rw [ne_eq, OpenProofs.fstVerify_ok_iff _ _ _ hck, hsame, hv]
  exact fun h => Fst.C08_masked_single_byte pre post x y hxy 0 (UInt32.toNat_inj.mp (Option.some.inj h))

end Fst.Props
