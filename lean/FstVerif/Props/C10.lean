import FstVerif.Proofs.Open
import FstVerif.Proofs.OldVer
import FstVerif.Proofs.EofLift
/-
C10 — version / length gate of `Fst::new`, `verify` on old versions, and the read side of
format versions 1, 2 and 3. Statements here; proofs in Proofs/Open.lean (the gates),
Proofs/OldVer*.lean (files written by the reference encoder `Spec.encodeFst`) and, for
`C10_stream_eof`, Proofs/EofLift.lean.
-/
namespace Fst.Props
open Fst Fst.OpenProofs Fst.OldVer

/-- inputs shorter than 32 bytes are rejected with a Format error, whatever they contain -/
theorem C10_short (bs : List UInt8) (h : bs.length < 32) :
    fstNew (Src.ofList bs) = .err (.format bs.length) := OpenProofs.C10_short bs h

/-- version 0 or a version newer than supported is rejected with a Version error
(once the input is long enough to be any FST at all) -/
theorem C10_version_gate (bs : List UInt8) (h : 32 ≤ bs.length)
    (hv : versionOf bs = 0 ∨ versionOf bs > 3) :
    fstNew (Src.ofList bs) = .err (.version 3 (versionOf bs)) := by
  have := OpenProofs.C10_version bs h (by rw [version_pinned]; exact hv)
  rwa [version_pinned] at this

/-- a version-3 input shorter than 36 bytes is rejected with a Format error -/
theorem C10_v3_min_len (bs : List UInt8) (hv : versionOf bs = 3) (h : bs.length < 36) :
    fstNew (Src.ofList bs) = .err (.format bs.length) := OpenProofs.C10_v3_short bs hv h

/-- `verify()` reports ChecksumMissing for versions that carry no checksum -/
theorem C10_checksum_missing (bs : List UInt8) (m : Meta)
    (hm : fstNew (Src.ofList bs) = .ok m) (hv : m.version ≤ 2) :
    fstVerify m (Src.ofList bs) = .err .checksumMissing := OpenProofs.C10_checksum_missing bs m hm hv

/-- and never for version 3 -/
theorem C10_v3_has_checksum (bs : List UInt8) (m : Meta)
    (hm : fstNew (Src.ofList bs) = .ok m) (hv : m.version = 3) :
    fstVerify m (Src.ofList bs) ≠ .err .checksumMissing := by
  obtain ⟨c, hc⟩ := Option.isSome_iff_exists.mp ((fstNew_ok bs m hm).v3 hv).2
  rw [verify_eq bs m hm, hc]
  simp only
  split <;> simp

/-- previously written files can only be read if the common-input table the reader uses is the
one they were written with: the table compiled into the crate (regenerated on every run) is
the pinned one -/
theorem C10_pinned_common_inputs : Gen.COMMON_INPUTS_INV = Spec.commonInv ∧ Gen.VERSION = 3 ∧
    Gen.TRANS_INDEX_THRESHOLD = 32 := by
  refine ⟨pinned_common_inv, by decide, by decide⟩

/-- READ SIDE, versions 1, 2 and 3. `Spec.encodeFst` (Spec/Encode.lean) is the reference
encoder — version 1 without transition index, version 2 with index and without checksum,
version 3 with both; on every run its bytes are diffed against the independent Rust
reference encoder of the harness. For every sorted map, both output-placement styles, with or
without node sharing: the file opens with that version, type and key count, carries a
checksum iff version 3, `verify()` answers ChecksumMissing / Ok accordingly, and the reader
of that version represents a good store whose root spells exactly the map -/
theorem C10_read (version ty : Nat) (kvs : KV) (style : Nat) (share : Bool)
    (h : Input version ty kvs style share) :
    let bytes := Spec.encodeFst version ty kvs style share
    let st := encStore version kvs style share
    let den := encDen version kvs style share
    ∃ m, fstNew (Src.ofList bytes) = .ok m ∧ m.version = version ∧ m.ty = ty ∧
      m.len = kvs.length ∧ m.rootAddr = encRoot version kvs style share ∧
      (m.checksum = none ↔ version ≤ 2) ∧
      Represents (byteAccess version (Src.ofList bytes)) st ∧ GoodStore st den ∧
      den m.rootAddr = kvs ∧ (m.rootAddr = 0 ∨ ∃ n, (m.rootAddr, n) ∈ st) ∧
      fstVerify m (Src.ofList bytes) = (if version ≤ 2 then .err .checksumMissing else .ok ()) :=
  OldVer.C10_read version ty kvs style share h

/-- hence `get` answers according to the content, for each version (ranges and searches: `C10_stream`) -/
theorem C10_get (version ty : Nat) (kvs : KV) (style : Nat) (share : Bool)
    (h : Input version ty kvs style share) :
    ∃ m, fstNew (Src.ofList (Spec.encodeFst version ty kvs style share)) = .ok m ∧
      ∀ key, fstGet (byteAccess m.version (Src.ofList (Spec.encodeFst version ty kvs style share)))
        m.rootAddr key = some (lookupKV kvs key) := OldVer.C10_get version ty kvs style share h

theorem C10_stream {σ : Type} (version ty : Nat) (kvs : KV) (style : Nat) (share : Bool)
    (h : Input version ty kvs style share) (A : Aut σ)
    (hEof : ∀ x, A.acceptEof x = none)
    (hCan : ∀ x, A.canMatch x = false → ∀ w, A.isMatch (A.run x w) = false)
    (min max : Bound) :
    ∃ m, fstNew (Src.ofList (Spec.encodeFst version ty kvs style share)) = .ok m ∧
      ∃ s0, streamNew (byteAccess m.version (Src.ofList (Spec.encodeFst version ty kvs style share)))
          A m.rootAddr min max = some s0 ∧
      ∃ N, ∀ fuel, N ≤ fuel →
        streamCollect (byteAccess m.version (Src.ofList (Spec.encodeFst version ty kvs style share)))
            A m.rootAddr fuel s0 [] =
          some ((kvs.filter fun kv =>
                  lowerOK min kv.1 && upperOK max kv.1 && A.accepts kv.1).map
                  fun kv => (kv.1, kv.2, A.run A.start kv.1)) :=
  OldVer.C10_stream version ty kvs style share h A hEof hCan min max

/-- the same for an automaton that overrides the `accept_eof` hook (no `hEof`): old-version files
are streamed by the same `next_with`; acceptance in the sense of `Aut.acceptsEof` -/
theorem C10_stream_eof {σ : Type} (version ty : Nat) (kvs : KV) (style : Nat) (share : Bool)
    (h : Input version ty kvs style share) (A : Aut σ)
    (hCan : ∀ x, A.canMatch x = false →
      ∀ w, A.isMatch (A.run x w) = false ∧ A.eofMatch (A.run x w) = false)
    (min max : Bound) :
    ∃ m, fstNew (Src.ofList (Spec.encodeFst version ty kvs style share)) = .ok m ∧
      ∃ s0, streamNew (byteAccess m.version (Src.ofList (Spec.encodeFst version ty kvs style share)))
          A m.rootAddr min max = some s0 ∧
      ∃ N, ∀ fuel, N ≤ fuel →
        streamCollect (byteAccess m.version (Src.ofList (Spec.encodeFst version ty kvs style share)))
            A m.rootAddr fuel s0 [] =
          some ((kvs.filter fun kv =>
                  lowerOK min kv.1 && upperOK max kv.1 && A.acceptsEof kv.1).map
                  fun kv => (kv.1, kv.2, A.run A.start kv.1)) := by
  obtain ⟨m, hm, hs⟩ := OldVer.C10_stream version ty kvs style share h (eofLift A)
    (fun _ => rfl) (eofLift_canSound A hCan) min max
  exact ⟨m, hm, eof_transport hs⟩

/-- the version-1 reader decodes nodes of any fan-out written without an index -/
theorem C10_codec_v1 (n : BNode) (lastAddr start : Nat) (enc pre post : List UInt8)
    (wf : WFNode n lastAddr start) (henc : Spec.compileNodeV 1 n lastAddr start = some enc)
    (hpre : pre.length = start) :
    ∃ rn, nodeNew 1 (Src.ofList (pre ++ enc ++ post)) (start + enc.length - 1) = some rn ∧
      rn.toBNode (Src.ofList (pre ++ enc ++ post)) = some n := by
  obtain ⟨_, rn, h1, D⟩ := codec_segV 1 n lastAddr start enc _ wf henc (hpre ▸ seg_mid pre enc post)
  exact ⟨rn, h1, D.toBNode⟩

/-- non-vacuity: a 42-key map with a 40-way node and the empty key, versions 1, 2, 3 -/
example : Input 1 7 ex40 1 true ∧ Input 2 7 ex40 0 false ∧ Input 3 0 ex40 1 true :=
  ⟨ex40_input_v1, ex40_input_v2, ex40_input_v3⟩

/-- non-vacuity: the 32-byte empty version-2 file opens -/
example : fstNew (Src.ofList ([2,0,0,0,0,0,0,0] ++ List.replicate 24 0)) =
    .ok { version := 2, rootAddr := 0, ty := 0, len := 0, checksum := none } := by decide

end Fst.Props
