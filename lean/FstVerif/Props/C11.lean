import FstVerif.Proofs.Sink
import FstVerif.Proofs.Glue
/-
C11 — I/O failures surface as errors, never as panics or silent success.
Statements here, derived from Proofs/Sink.lean and Proofs/Glue.lean. A failing response is `take 0`
(Ok(0)) or `fail k` (any error other than Interrupted).
-/
namespace Fst.Props
open Fst Fst.SinkProofs

/-- if the sink served a failing response during an `insert`/`add` (for any
script before it, incl. short writes and Interrupted), that call returns Err(Io) -/
theorem C11_fault_call (x : IOB) (r : Except BErr BState) (used : List Resp)
    (hu : x.cw.sink.script = used ++ (x.step r).1.cw.sink.script)
    (bad : Resp) (hmem : bad ∈ used) (hbad : Bad bad) :
    ∃ e, (x.step r).2 = .error (.io e) := (step_consumed x r).fault hu hmem hbad

/-- the same for `finish`/`into_inner` -/
theorem C11_fault_finish (x : IOB) (used : List Resp)
    (hu : x.cw.sink.script = used ++ x.intoInner.1.script)
    (bad : Resp) (hmem : bad ∈ used) (hbad : Bad bad) :
    ∃ e, x.intoInner.2 = .error (.io e) := by
  obtain ⟨c', used', written, hc, hran, hm⟩ := intoInner_spec x
  cases List.append_cancel_right (hu.symm.trans (hc ▸ hran.script))
  match hr : x.intoInner.2, hm with
  | .ok (), ⟨hben, _⟩ => exact absurd hbad (hben.not_bad hmem)
  | .error (.fst e), ⟨h, _⟩ => subst h; cases hmem
  | .error (.io e), _ => exact ⟨e, rfl⟩

/-- the error reported is the first failure; everything served before it was benign -/
theorem C11_first_fault (c : CW) (chunks : List (List UInt8)) (e : IoErr)
    (h : (c.writeChunks chunks).2 = .error e) :
    ∃ good bad, c.sink.script = good ++ bad :: (c.writeChunks chunks).1.sink.script ∧
      Benign good ∧ Bad bad ∧ e = errOf bad := by
  obtain ⟨used, written, hran, hend⟩ := CW.writeChunks_ran c chunks rfl
  rw [h] at hend
  exact hend.first hran.script

/-- no build is reported as finished unless every byte was accepted and the flush succeeded
(`ChunkLaw` holds: `C07_chunk_law`) -/
theorem C11_finish_ok_only_if (x : IOB) (s : Sink) (h : x.intoInner = (s, .ok ())) :
    ∃ used b' root, x.cw.sink.script = used ++ s.script ∧ Benign used ∧
      s.flushFails = none ∧ x.b.finish = .ok (b', root) ∧
      (ChunkLaw → s.held = x.cw.sink.held ++ (tailBytes x b' root).toArray) :=
  Fst.SinkProofs.C11_finish_ok_only_if x s h

/-- the model has no panic outcome on the I/O path: a step's result is ok, an
ordering error of the pure builder, or Err(Io) -/
theorem C11_step_outcomes (x : IOB) (r : Except BErr BState) :
    (x.step r).2 = .ok () ∨ (∃ e, (x.step r).2 = .error (.fst e)) ∨ (∃ e, (x.step r).2 = .error (.io e)) :=
  outcomes _


/-! ### batch entry points over a failing sink (`extend_iter` / `extend_stream`; Model/Glue.lean) -/

/-- if ANY response the sink served during a batch call is a failing one, the batch returns
Err(Io) — and (`C11_batch_stops`) nothing is called after the failing call -/
theorem C11_batch_fault (x : IOB) (calls : List BCall) (used : List Resp)
    (hu : x.cw.sink.script = used ++ (x.extend calls).1.cw.sink.script)
    (bad : Resp) (hmem : bad ∈ used) (hbad : Bad bad) :
    ∃ e, (x.extend calls).2 = .error (.io e) :=
  (Glue.extend_consumed x calls).fault hu hmem hbad

theorem C11_batch_stops (x : IOB) (calls : List BCall) (e : CallErr) (h : (x.extend calls).2 = .error e) :
    ∃ pre c post x1, calls = pre ++ c :: post ∧ Glue.OkRun x pre x1 ∧ (x1.call c).2 = .error e ∧
      (x.extend calls).1 = (x1.call c).1 := Glue.extend_error_split x calls e h

/-- the error a batch reports is the sink's own first failure (kind preserved: `errOf`) -/
theorem C11_batch_first_fault (x : IOB) (calls : List BCall) (e : IoErr)
    (h : (x.extend calls).2 = .error (.io e)) :
    ∃ good bad, x.cw.sink.script = good ++ bad :: (x.extend calls).1.cw.sink.script ∧
      Benign good ∧ Bad bad ∧ e = errOf bad :=
  SinkProofs.Consumed.first_fault (h ▸ Glue.extend_consumed x calls)

theorem C11_batch_outcomes (x : IOB) (calls : List BCall) :
    (x.extend calls).2 = .ok () ∨ (∃ e, (x.extend calls).2 = .error (.fst e)) ∨
      (∃ e, (x.extend calls).2 = .error (.io e)) := outcomes _

end Fst.Props
