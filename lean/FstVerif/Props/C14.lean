import FstVerif.Proofs.Bounds
/-
C14 — traversals and set operations stream with memory independent of the FST
size. PARTIAL: the theorems bound the model's stack / key buffer / heap sizes;
allocations themselves (incl. "open and point lookups allocate nothing") are
MEASURED by ./check with a counting allocator. Statements here; proofs in
Proofs/BoundsStream.lean, BoundsOps.lean, Bounds.lean.
-/
namespace Fst.Props
open Fst Fst.Bounds
variable {N σ : Type}

/-- every stream state reachable from `StreamWithState::new` (any store, any automaton,
any bounds): the stack is at most one frame deeper than the key buffer is long -/
theorem C14_stream_depth {acc : NodeAccess N} {A : Aut σ} {root : Nat} {min max : Bound}
    {st : SState N σ} (h : SReach acc A root min max st) : st.stack.length ≤ st.inp.length + 1 :=
  Fst.Bounds.C14_stream_depth h

/-- on the node store of any finished build, through any node access that `Represents` it (the
bytes of the file are not in this statement): key buffer ≤ longest key, stack ≤ longest key + 1 —
no term in the number of keys stored or emitted -/
theorem C14_stream_built (rows cols : Nat) (kvs : KV) (h : SortedKV kvs) :
    ∃ s s' root, insertAll (BState.new rows cols) kvs = .ok s ∧ s.finish = .ok (s', root) ∧
      ∀ {N σ : Type} (acc : NodeAccess N) (A : Aut σ) (min max : Bound) (st : SState N σ),
        Represents acc (storeOf s') → SReach acc A root min max st →
        st.inp.length ≤ maxLen kvs ∧ st.stack.length ≤ maxLen kvs + 1 :=
  Fst.Bounds.C14_stream_built rows cols kvs h

/-- a union / intersection / symmetric difference over k streams holds at most k heap slots and
exactly k readers in every state reachable by `next` calls, whatever the heap's tie-break
(`OpReach` even lets the three kinds of `next` alternate on one state) -/
theorem C14_ops_slots {pop : PopFn} {streams : List KV} {s : OpState}
    (hp : Ops.PopSpec pop) (h : OpReach pop streams s) :
    s.heap.heap.length ≤ streams.length ∧ s.heap.rdrs.length = streams.length :=
  ⟨(Fst.Bounds.C14_ops_slots hp h).1, (Fst.Bounds.C14_ops_slots hp h).2.1⟩

theorem C14_diff_slots {pop : PopFn} {first : KV} {rest : List KV} {d : DiffState}
    (hp : Ops.PopSpec pop) (h : DiffReach pop (first :: rest) d) :
    d.heap.heap.length ≤ (first :: rest).length - 1 :=
  (Fst.Bounds.C14_ops_slots_diff hp h).1

/-- one step pushes at most one frame and one byte -/
theorem C14_step_growth (acc : NodeAccess N) (A : Aut σ) (root : Nat) (s s' : SState N σ)
    (h : stepState (streamStep acc A root s) = some s') :
    s'.stack.length ≤ s.stack.length + 1 ∧ s'.inp.length ≤ s.inp.length + 1 :=
  Fst.Bounds.C14_step_growth acc A root s s' h

end Fst.Props
