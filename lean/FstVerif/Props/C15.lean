import FstVerif.Proofs.EndToEnd
import FstVerif.Props.C07
import FstVerif.Proofs.Frontends
/-
C15 — construction is deterministic and independent of the API path. In the
model the emitted bytes are *by construction* a function of (type, cache
geometry, call sequence). What is stated here: rejected calls do not enter
that function; writing through any benign sink gives the in-memory bytes
(API path = sink independence); the type only affects the second header word.
The tie to the real code — every front end, 8 threads, 2 processes, 3
repetitions byte-identical to this one function — is the correspondence run.
-/
namespace Fst.Props
open Fst Fst.SinkProofs

/-- run a call sequence, ignoring rejected calls (what single `insert`s do) -/
def runIns (s : BState) : List (Key × Nat) → BState
  | [] => s
  | (k, v) :: rest =>
    match s.insert k v with
    | .ok s' => runIns s' rest
    | .error _ => runIns s rest

/-- the accepted subsequence -/
def acceptedIns (s : BState) : List (Key × Nat) → List (Key × Nat)
  | [] => []
  | (k, v) :: rest =>
    match s.insert k v with
    | .ok s' => (k, v) :: acceptedIns s' rest
    | .error _ => acceptedIns s rest

private theorem runIns_accepted (s : BState) (calls : List (Key × Nat)) :
    runIns s calls = runIns s (acceptedIns s calls) ∧
      insertAll s (acceptedIns s calls) = .ok (runIns s calls) := by
  induction calls generalizing s with
  | nil => exact ⟨rfl, rfl⟩
  | cons c rest ih =>
    obtain ⟨k, v⟩ := c
    simp only [runIns, acceptedIns]
    cases h : s.insert k v with
    | error e => exact ih s
    | ok s' =>
      simp only [runIns, insertAll, h]
      exact ih s'

/-- the final builder state (hence the bytes) depends only on the accepted calls -/
theorem C15_function_of_accepted (s : BState) (calls : List (Key × Nat)) :
    runIns s calls = runIns s (acceptedIns s calls) := (runIns_accepted s calls).1

/-- the accepted subsequence run through `insertAll` (the `extend_*` / `from_iter` fold)
reaches the same state as the single calls -/
theorem C15_extend_eq_single (s : BState) (calls : List (Key × Nat)) :
    insertAll s (acceptedIns s calls) = .ok (runIns s calls) := (runIns_accepted s calls).2

/-- every map-like batch entry point (Builder::extend_iter / extend_stream, MapBuilder::
extend_iter / extend_stream, Map::from_iter, Fst::from_iter_map) reaches exactly the state —
hence emits exactly the bytes — of the single `insert` calls -/
theorem C15_frontends_map (fe : FrontEnd)
    (hfe : fe = .rawIter ∨ fe = .rawStream ∨ fe = .mapIter ∨ fe = .mapStream ∨ fe = .mapFromIter ∨ fe = .rawFromIterMap)
    (s s' : BState) (kvs : KV) (h : insertAll s kvs = .ok s') :
    fe.runBatch s kvs = (s', .ok ()) := by
  rcases hfe with rfl | rfl | rfl | rfl | rfl | rfl <;> exact extendInsert_ok s kvs s' h

/-- the same for the set-like entry points listed in `hfe` and single `add` calls (`setUnionStream`, which
feeds `extendAdd` the merged keys of two sets, is not among them) -/
theorem C15_frontends_set (fe : FrontEnd)
    (hfe : fe = .setIter ∨ fe = .setStream ∨ fe = .setFromIter ∨ fe = .rawFromIterSet)
    (s s' : BState) (kvs : KV) (h : addAll s (kvs.map (·.1)) = .ok s') :
    fe.runBatch s kvs = (s', .ok ()) := by
  rcases hfe with rfl | rfl | rfl | rfl <;> exact extendAdd_ok s _ s' h

/-- writing through ANY benign sink (short writes, Interrupted, prefill) yields the bytes of the
in-memory build -/
theorem C15_sink_independent (p : List UInt8) (script : List Resp) (hb : Benign script)
    (ty rows cols : Nat) (calls : List Call) (b : BState) (bytes : List UInt8)
    (hrun : BState.run (BState.new rows cols) calls = .ok b) (hfile : b.fileBytes ty = .ok bytes) :
    ∃ cw x0 x s, IOB.new (Sink.new p script) ty rows cols = (cw, .ok x0) ∧
      IOB.run x0 calls = some x ∧ x.b = b ∧ x.intoInner = (s, .ok ()) ∧
      s.held = (p ++ bytes).toArray :=
  C07_bytes p script hb ty rows cols calls b bytes hrun hfile

/-- the FST type is only the second header word: all node bytes are independent of it -/
theorem C15_type_only_in_header (ty1 ty2 : Nat) (s : BState) (root : Nat) :
    (s.bodyChunks ty1 root).drop 2 = (s.bodyChunks ty2 root).drop 2 := by
  simp [BState.bodyChunks, headerChunks]

end Fst.Props
