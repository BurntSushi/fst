import FstVerif.Proofs.Lookup
import FstVerif.Proofs.EndToEnd
/-
C16 — get_key on maps whose values increase with the keys. Statements here,
proofs in Proofs/Lookup.lean. `Tight` (every transition output is attained
below it) is an invariant of builder output (Proofs/BuildSide.lean, `build_tight`);
without it the statement is false even for monotone stores — see
`LookupExample.getKey_counterexample`.
-/
namespace Fst.Props
open Fst
variable {N : Type} {s : Store} {den : Nat → KV} {acc : NodeAccess N}

/-- on ANY map: never panics, only appends to the caller's buffer, and `true`
means the appended key has that value (so a value no key has is answered `false`) -/
theorem C16_sound (hg : GoodStore s den) (hr : Represents acc s) (root : Nat)
    (hroot : root = 0 ∨ ∃ n, (root, n) ∈ s) (fuel : Nat) (hf : root + 1 ≤ fuel)
    (value : Nat) (buf : Key) :
    ∃ b k, fstGetKeyInto acc root fuel value buf = some (b, buf ++ k) ∧
      (b = true → (k, value) ∈ den root) := fstGetKeyInto_sound hg hr root hroot fuel hf value buf

/-- on monotone maps: the key with that value is found (including the empty key),
and `false` is returned exactly when no key has it -/
theorem C16_get_key (hg : GoodStore s den) (hr : Represents acc s) (root : Nat)
    (hroot : root = 0 ∨ ∃ n, (root, n) ∈ s) (hm : Mono (den root)) (ht : Tight s den)
    (fuel : Nat) (hf : root + 1 ≤ fuel) (value : Nat) (buf : Key) :
    (∀ k, (k, value) ∈ den root → fstGetKeyInto acc root fuel value buf = some (true, buf ++ k)) ∧
    ((∀ k, (k, value) ∉ den root) → ∃ buf', fstGetKeyInto acc root fuel value buf = some (false, buf')) :=
  fstGetKeyInto_correct hg hr root hroot hm ht fuel hf value buf

/-- END TO END, on the bytes of the file a map builder writes: if the values strictly
increase in key order, `get_key_into` (with the fuel the driver passes) appends exactly the
key of `value` and returns true when some key — including the empty key — has it, and
returns false otherwise. `Tight` is discharged by Proofs/BuildSide.lean (`build_tight`). -/
theorem C16_file (rows cols ty : Nat) (hty : ty < 2^64) (kvs : KV) (hs : SortedKV kvs)
    (hv : ∀ kv ∈ kvs, kv.2 < 2^64) (hn : kvs.length < 2^64) (hmono : Mono kvs) :
    ∃ s bytes, insertAll (BState.new rows cols) kvs = .ok s ∧ s.fileBytes ty = .ok bytes ∧
      (bytes.length < 2^64 →
        ∃ m, fstNew (Src.ofList bytes) = .ok m ∧
          ∀ fuel, bytes.length + 2 ≤ fuel → ∀ (value : Nat) (buf : Key),
            (∀ k, (k, value) ∈ kvs →
              fstGetKeyInto (byteAccess 3 (Src.ofList bytes)) m.rootAddr fuel value buf =
                some (true, buf ++ k)) ∧
            ((∀ k, (k, value) ∉ kvs) →
              ∃ buf', fstGetKeyInto (byteAccess 3 (Src.ofList bytes)) m.rootAddr fuel value buf =
                some (false, buf'))) := by
  obtain ⟨s, bytes, h1, h2, h⟩ := E2E.map_file rows cols ty hty kvs hs hv hn
  exact ⟨s, bytes, h1, h2, fun hsz => by
    obtain ⟨m, R, hk⟩ := h hsz
    exact ⟨m, R.opened, hk hmono⟩⟩

example := C16_file 1 1 7 (by decide) E2E.exKvs E2E.exKvs_sorted E2E.exKvs_values (by decide) E2E.exKvs_mono

/-- without `Tight` the statement is false even for a monotone good store (kernel-checked witness) -/
theorem C16_tight_needed :
    GoodStore LookupExample.badStore LookupExample.badDen ∧ Mono (LookupExample.badDen 2) ∧
    ([97], 5) ∈ LookupExample.badDen 2 ∧
    fstGetKeyInto (Fst.storeAccess LookupExample.badStore) 2 4 5 [] = some (false, [98]) := by
  obtain ⟨h1, _, _, h4, _, h6, _, h8⟩ := LookupExample.getKey_counterexample
  exact ⟨h1, h4, h6, h8⟩

example : Mono (LookupExample.exDen 3) ∧ Tight LookupExample.exStore LookupExample.exDen :=
  ⟨LookupExample.exMono, LookupExample.exTight⟩

end Fst.Props
