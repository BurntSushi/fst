import FstVerif.Proofs.Aut
/-
C18 — built-in automata and combinators match their specifications, and the
pruning hints are sound for any component automata whose hints are sound.
Statements here, derived from the `run` lemmas and hint lemmas of Proofs/Aut.lean. Everything is for arbitrary
component automata over arbitrary state types: no bound on sizes, strings or
nesting depth. `HintsSound A` = for every state, `can_match` false ⇒ no
continuation matches, and `will_always_match` true ⇒ every continuation matches.
-/
namespace Fst.Props
open Fst
variable {σ τ : Type}

/-- Str accepts exactly its string -/
theorem C18_str (s w : Key) : (autStr s).accepts w = true ↔ w = s := Fst.C18_str s w
/-- Subsequence accepts exactly the byte strings containing its pattern as a subsequence -/
theorem C18_subseq (s w : Key) : (autSubseq s).accepts w = isSubseq s w := by
  unfold Aut.accepts
  show ((autSubseq s).run 0 w == s.length) = _
  rw [subseq_run s w 0 (Nat.zero_le _)]; simp
/-- AlwaysMatch accepts everything -/
theorem C18_always (w : Key) : autAlways.accepts w = true := rfl
/-- StartsWith(A) accepts exactly the strings having a prefix (possibly empty, possibly all) accepted by A -/
theorem C18_startswith (A : Aut σ) (w : Key) :
    (autStartsWith A).accepts w = somePrefix A A.start w := sw_enter A A.start w
/-- Union / Intersection / Complement are the Boolean combinations -/
theorem C18_union (A : Aut σ) (B : Aut τ) (w : Key) :
    (autUnion A B).accepts w = (A.accepts w || B.accepts w) := by
  simp [Aut.accepts, union_run]; rfl
theorem C18_inter (A : Aut σ) (B : Aut τ) (w : Key) :
    (autInter A B).accepts w = (A.accepts w && B.accepts w) := by
  simp [Aut.accepts, inter_run]; rfl
theorem C18_compl (A : Aut σ) (w : Key) : (autCompl A).accepts w = !A.accepts w := by
  simp [Aut.accepts, compl_run]; rfl

/-- hint soundness: the leaves … -/
theorem C18_hints_str (s : Key) : HintsSound (autStr s) := Fst.C18_hints_str s
theorem C18_hints_subseq (s : Key) : HintsSound (autSubseq s) := Fst.C18_hints_subseq s
theorem C18_hints_always : HintsSound autAlways := Fst.C18_hints_always
/-- … and closure under every combinator, for any components whose own hints are sound -/
theorem C18_hints_startswith (A : Aut σ) (hA : HintsSound A) : HintsSound (autStartsWith A) :=
  Fst.C18_hints_startswith A hA
theorem C18_hints_union (A : Aut σ) (B : Aut τ) (hA : HintsSound A) (hB : HintsSound B) :
    HintsSound (autUnion A B) := Fst.C18_hints_union A B hA hB
theorem C18_hints_inter (A : Aut σ) (B : Aut τ) (hA : HintsSound A) (hB : HintsSound B) :
    HintsSound (autInter A B) := Fst.C18_hints_inter A B hA hB
theorem C18_hints_compl (A : Aut σ) (hA : HintsSound A) : HintsSound (autCompl A) :=
  Fst.C18_hints_compl A hA

example : HintsSound (autUnion (autStr [97, 98]) (autCompl (autStartsWith (autSubseq [97])))) :=
  C18_hints_union _ _ (C18_hints_str _) (C18_hints_compl _ (C18_hints_startswith _ (C18_hints_subseq _)))

end Fst.Props
