import FstVerif.Proofs.Merge
import FstVerif.Proofs.Lines
import FstVerif.Proofs.Sched
/-
C19 — unsorted CLI builds are independent of batching, file-descriptor limit
and scheduling. PARTIAL: the theorems are about the data flow of merge.rs
(Model/Merge.lean) under every permutation of each generation's results, and
about a transition-system model of the Sorters thread/channel protocol
(Model/Sched.lean: every interleaving of hand-offs, work and result returns).
The OS scheduler, crossbeam's implementation of the channels and the temp files
are not modelled; they are exercised by running the real binary (./check,
seeded delays) whose traces are checked against the protocol model's predicate.
Statements here; proofs in Proofs/Merge.lean (data flow, with the union specification from
Proofs/Ops.lean), Proofs/Sched*.lean (protocol) and Proofs/Lines.lean (input lines).
-/
namespace Fst.Props
open Fst Fst.MergeProofs

/-- for every batch size, every fd limit ≥ 2 and every schedule (any permutation
of each generation's results): the merge terminates and yields `Spec.merged`: the distinct keys,
ascending (`MergeProofs.merged_canon`), with the merge (sum / max / min) of ALL values given for each key -/
theorem C19_result (m : MergeMode) (batchSize fd : Nat) (hfd : 2 ≤ fd)
    (sched : Nat → List KV → List KV) (hsched : ∀ g xs, (sched g xs).Perm xs)
    (rows : List (Key × Nat)) :
    mergeAll m batchSize fd sched rows = some (Spec.merged m rows) :=
  C19_result_final m batchSize fd hfd sched hsched rows

/-- what `merged` holds, by membership (its order: `MergeProofs.merged_canon`) -/
theorem C19_spec (m : MergeMode) (rows : List (Key × Nat)) (k : Key) (v : Nat) :
    (k, v) ∈ Spec.merged m rows ↔ k ∈ rows.map (·.1) ∧ v = m.fold (valuesOf rows k) := mem_merged m rows k v

/-- the result does not depend on the order of the input rows either -/
theorem C19_row_order (m : MergeMode) (r1 r2 : List (Key × Nat)) (h : r1.Perm r2) :
    Spec.merged m r1 = Spec.merged m r2 := merged_perm m h

/-- fd-limit ≤ 1 cannot make progress (outside the contract) -/
theorem C19_fd_le_1_stuck (m : MergeMode) (fd : Nat) (hfd : fd ≤ 1) (sched : Nat → List KV → List KV)
    (hsched : ∀ g xs, (sched g xs).Perm xs) (fuel g : Nat) (results : List KV) (h : 2 ≤ results.length) :
    mergeGens m fd sched fuel g results = none := C19_no_progress_fd_le1 m fd hfd sched hsched fuel g results h

theorem C19_op_comm (m : MergeMode) (x y : Nat) : m.op x y = m.op y x := op_comm m x y
theorem C19_op_assoc (m : MergeMode) (x y z : Nat) : m.op (m.op x y) z = m.op x (m.op y z) := op_assoc m x y z

example : kvBatch .sum [([97], 1), ([97], 2), ([98], 5), ([97], 1)] = [([97], 4), ([98], 5)] := by decide


/-! ### the thread / channel protocol of `Sorters` (Model/Sched.lean) — every interleaving

`C19_result` takes the order in which a generation's results come back as an arbitrary
permutation. The theorems below derive that from a transition-system model of the two
rendezvous channels and the worker loop: whichever worker takes whichever batch, and in
whichever order the workers hand back their vectors. -/

/-- whatever the interleaving, when `Sorters::results` returns, every batch's result is there exactly once -/
theorem C19_sorters_perm {threads total : Nat} {s : Sched.St}
    (h : Sched.Reachable threads total s) (ht : s.terminal = true) :
    s.collected.Perm (List.range total) := Sched.sorters_perm h ht

/-- no interleaving deadlocks (at least one worker) … -/
theorem C19_sorters_progress {threads total : Nat} {s : Sched.St} (h1 : 1 ≤ threads)
    (h : Sched.Reachable threads total s) (ht : s.terminal = false) :
    ∃ e, (Sched.step s e).isSome := Sched.sorters_progress h1 h ht

/-- … and every interleaving is finite -/
theorem C19_sorters_terminates {threads total : Nat} {evs : List Sched.Ev} {s : Sched.St}
    (h : Sched.run (Sched.init threads total) evs = some s) : evs.length ≤ 2 * total + threads + 1 :=
  Sched.sorters_terminates h

/-- the orders in which results can come back are exactly those with at most `threads`
ascending runs (this predicate is evaluated on the trace of every real run); `h1` is not used -/
theorem C19_sorters_orders {threads total : Nat} (h1 : 1 ≤ threads) (order : List Nat) :
    Sched.validOrder threads total order = true ↔
      ∃ s, Sched.Reachable threads total s ∧ s.terminal = true ∧ s.collected = order :=
  Sched.sorters_exact h1

/-- the merge result for every interleaving of every generation; a `choice` that is no terminal execution
(with `threads = 0` and a non-empty generation: every choice) counts as the identity schedule -/
theorem C19_threads (m : MergeMode) (batchSize fd : Nat) (hfd : 2 ≤ fd) (threads : Nat)
    (choice : Nat → Nat → List Sched.Ev) (rows : List (Key × Nat)) :
    mergeAll m batchSize fd (Sched.schedOf threads choice) rows = some (Spec.merged m rows) :=
  Sched.C19_threads m batchSize fd hfd threads choice rows


/-! ### what the input files mean as rows (Model/Glue.lean `lineKey`, `fileRows`) -/

/-- one CR before the line feed belongs to the terminator; an unterminated last line is taken as it is -/
theorem C19_line_key (c : Key) :
    lineKey (c ++ [13]) true = c ∧ lineKey (c ++ [13, 13]) true = c ++ [13] ∧ lineKey c false = c ∧
    (c.getLast? ≠ some 13 → lineKey c true = c) :=
  ⟨Glue.lineKey_cr c, Glue.lineKey_cr_cr c, Glue.lineKey_unterminated c, fun h => Glue.lineKey_no_cr c true h⟩

/-- a file listed twice is read twice -/
theorem C19_file_twice (b : Bool) (f : List (Key × Nat) × Bool) :
    fileRows b [f, f] = fileRows b [f] ++ fileRows b [f] :=
  Glue.fileRows_append b [f] [f]


/-! ### from the BYTES of the input files to the rows (Model/Lines.lean: bstr's `byte_lines`) -/

/-- reading back a file written line by line: every row comes back as `lineKey` says, provided no
row contains a line feed and the file does not end in an EMPTY unterminated row (which leaves no
byte behind: `Lines.byteLines_render_empty_last`) -/
theorem C19_bytes_to_rows (rows : List Key) (lastTerminated : Bool) (hnl : ∀ r ∈ rows, (10 : UInt8) ∉ r)
    (hlast : lastTerminated = true ∨ rows.getLast? ≠ some []) :
    byteLines (renderLines rows lastTerminated) =
      rows.zipIdx.map (fun (c, i) => lineKey c (lastTerminated || i + 1 != rows.length)) :=
  Lines.byteLines_render rows lastTerminated hnl hlast

/-- one reader per file: lines never span files (what chaining the readers would do instead: the example below) -/
theorem C19_files_to_rows (files : List (List (Key × Nat) × Bool)) (h : ∀ f ∈ files, Lines.Renderable f) :
    concatFilesLines (files.map fun (rows, t) => renderLines (rows.map (·.1)) t) = (fileRows true files).map (·.1) :=
  Lines.concatFilesLines_render files h

example : byteLines ([97] ++ [98, 10]) = [[97, 98]] ∧ concatFilesLines [[97], [98, 10]] = [[97], [98]] := by decide

/-- a line is never split, whatever its length -/
theorem C19_long_line (n : Nat) : byteLines (List.replicate n 76 ++ [10]) = [List.replicate n 76] :=
  by
  rw [Lines.byteLines_line _ [] (by simp [Lines.NoNL]),
    Glue.lineKey_no_cr _ _ (by rw [List.getLast?_replicate]; split <;> simp)]
  rfl

end Fst.Props
