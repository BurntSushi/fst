import FstVerif.Proofs.Open
import FstVerif.Proofs.Glue
/-
C20 — opening and verifying untrusted bytes is total. Statements only; proofs
in Proofs/Open.lean (`map_data`: Proofs/Glue.lean). The metadata accessors are field
reads of the `Meta` record a successful open returns, hence total. The "no unsafe"
clause is a compiler audit run by ./check (`-F unsafe_code` + lexical scan), not a theorem.
-/
namespace Fst.Props
open Fst Fst.OpenProofs

/-- for EVERY byte string, `Fst::new` returns Ok or Err: no slice it takes is out of bounds -/
theorem C20_open_total (bs : List UInt8) : ∀ tag, fstNew (Src.ofList bs) ≠ .panic tag :=
  OpenProofs.C20_open_total bs

/-- on anything that opens, `verify()` returns without panicking -/
theorem C20_verify_total (bs : List UInt8) (m : Meta) (hm : fstNew (Src.ofList bs) = .ok m) :
    ∀ tag, fstVerify m (Src.ofList bs) ≠ .panic tag := OpenProofs.C20_verify_total bs m hm

/-- what `verify()` computes: the masked CRC-32C of everything but the last four bytes -/
theorem C20_verify_outcome (bs : List UInt8) (m : Meta) (hm : fstNew (Src.ofList bs) = .ok m) :
    fstVerify m (Src.ofList bs) =
      match m.checksum with
      | none => .err .checksumMissing
      | some expected =>
        let got := (maskedSum (crc32cSlice16 0 (bs.take (bs.length - 4)))).toNat
        if expected = got then .ok () else .err (.checksumMismatch expected got) :=
  OpenProofs.verify_eq bs m hm

/-- fewer bytes than a header: an error, not a panic -/
theorem C20_short_is_error (bs : List UInt8) (h : bs.length < 32) :
    fstNew (Src.ofList bs) = .err (.format bs.length) := OpenProofs.C10_short bs h

/-! ### `map_data` (Fst / Map / Set): the closure's bytes are opened afresh -/

theorem C20_map_data_total (f : Src → Src) (d : Src) (bs : List UInt8) (h : f d = Src.ofList bs) :
    ∀ tag, mapData f d ≠ .panic tag := Glue.mapData_total f d bs h

/-- nothing of the old bytes' header survives -/
theorem C20_map_data_forgets (b d d' : Src) : mapData (fun _ => b) d = mapData (fun _ => b) d' :=
  rfl

end Fst.Props
