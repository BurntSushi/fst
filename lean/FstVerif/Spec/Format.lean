/-
The on-disk format (versions 1, 2, 3) as a *parser written from the format
description*, with pinned constants. It shares no code with Model/Node.lean:
it walks the file from the root, reads every node by the documented layout
and returns the map the file denotes together with the extents of the nodes
it visited.

Layout (addresses are byte offsets; a node's address is that of its LAST byte):
  file   := version:u64le type:u64le node* len:u64le root:u64le [crc:u32le  (v3 only)]
  node   := … fields stored so that reading goes backwards from the state byte
  state byte: 11cccccc one transition, target = the node stored immediately before, output 0
              10cccccc one transition
              0fnnnnnn any number of transitions, f = final, n = count (0: count in the
                       preceding byte, where the value 1 means 256)
  cccccc = index+1 into the common-input table, 0 = input byte stored explicitly before the state byte
  one transition  : [output:osize] [delta:tsize] sizes [input?] state
  any transitions : [final output:osize if f] [outputs:osize each, reversed] [deltas:tsize each, reversed]
                    [inputs, reversed] [256-byte index if n > 32 and version ≥ 2] sizes [count?] state
  sizes  = tsize*16 + osize ; all integers little-endian ; osize = 0 means all outputs are 0
  delta  = 0 for the shared empty final node (address 0), else (address of the node's FIRST byte) − target
-/
namespace Fst.Spec

def commonInv : List Nat := [116, 101, 47, 111, 97, 115, 114, 105, 112, 99, 110, 119, 46, 104, 108, 109, 45, 100, 117, 48, 49, 50, 103, 61, 58, 98, 102, 51, 121, 53, 38, 95, 52, 118, 57, 54, 55, 56, 107, 37, 63, 120, 67, 68, 65, 83, 70, 73, 66, 69, 106, 80, 84, 122, 82, 78, 77, 43, 76, 79, 113, 72, 71, 87, 85, 86, 44, 89, 75, 74, 90, 88, 81, 59, 41, 40, 126, 91, 93, 36, 33, 39, 42, 64, 0, 1, 2, 3, 4, 5, 6, 7, 8, 9, 10, 11, 12, 13, 14, 15, 16, 17, 18, 19, 20, 21, 22, 23, 24, 25, 26, 27, 28, 29, 30, 31, 32, 34, 35, 60, 62, 92, 94, 96, 123, 124, 125, 127, 128, 129, 130, 131, 132, 133, 134, 135, 136, 137, 138, 139, 140, 141, 142, 143, 144, 145, 146, 147, 148, 149, 150, 151, 152, 153, 154, 155, 156, 157, 158, 159, 160, 161, 162, 163, 164, 165, 166, 167, 168, 169, 170, 171, 172, 173, 174, 175, 176, 177, 178, 179, 180, 181, 182, 183, 184, 185, 186, 187, 188, 189, 190, 191, 192, 193, 194, 195, 196, 197, 198, 199, 200, 201, 202, 203, 204, 205, 206, 207, 208, 209, 210, 211, 212, 213, 214, 215, 216, 217, 218, 219, 220, 221, 222, 223, 224, 225, 226, 227, 228, 229, 230, 231, 232, 233, 234, 235, 236, 237, 238, 239, 240, 241, 242, 243, 244, 245, 246, 247, 248, 249, 250, 251, 252, 253, 254, 255]

def VERSION_MAX : Nat := 3
def INDEX_THRESHOLD : Nat := 32

structure SNode where
  fin : Bool
  fout : Nat
  trans : List (UInt8 × Nat × Nat)    -- input, output, target; ascending input order (stored reversed)
  first : Nat
  last : Nat
deriving Repr, Inhabited

def le (a : Array UInt8) (i n : Nat) : Option Nat :=
  if i + n ≤ a.size then
    some ((List.range n).foldr (fun k acc => (a.getD (i + k) 0).toNat + 256 * acc) 0)
  else none

def commonByte (idx : Nat) : Option UInt8 :=
  if idx = 0 then none else (commonInv[idx - 1]?).map UInt8.ofNat

def target (first delta : Nat) : Nat := if delta = 0 then 0 else first - delta

def parseNode (version : Nat) (a : Array UInt8) (addr : Nat) : Option SNode :=
  if addr = 0 then some ⟨true, 0, [], 0, 0⟩ else
  if addr ≥ a.size then none else
  let s := (a.getD addr 0).toNat
  if s ≥ 192 then
    -- 11cccccc
    match commonByte (s % 64) with
    | some b => if addr < 1 then none else some ⟨false, 0, [(b, 0, addr - 1)], addr, addr⟩
    | none =>
      if addr < 2 then none else
      some ⟨false, 0, [(a.getD (addr - 1) 0, 0, addr - 2)], addr - 1, addr⟩
  else if s ≥ 128 then
    -- 10cccccc
    let (inp, p) := match commonByte (s % 64) with
      | some b => (b, addr)
      | none => (a.getD (addr - 1) 0, addr - 1)
    if p < 1 then none else
    let sizes := (a.getD (p - 1) 0).toNat
    let tsize := sizes / 16
    let osize := sizes % 16
    if p < 1 + tsize + osize then none else
    let first := p - 1 - tsize - osize
    match le a (first + osize) tsize, le a first osize with
    | some delta, some out => some ⟨false, 0, [(inp, out, target first delta)], first, addr⟩
    | _, _ => none
  else
    let fin := s ≥ 64
    let cnt := s % 64
    let (n, p) :=
      if cnt ≠ 0 then (cnt, addr)
      else
        let c := (a.getD (addr - 1) 0).toNat
        (if c = 1 then 256 else c, addr - 1)
    if p < 1 then none else
    let sizes := (a.getD (p - 1) 0).toNat
    let tsize := sizes / 16
    let osize := sizes % 16
    let idx := if version ≥ 2 ∧ n > INDEX_THRESHOLD then 256 else 0
    let body := idx + n + n * tsize + n * osize + (if fin then osize else 0)
    if p < 1 + body then none else
    let first := p - 1 - body
    let outsAt := first + (if fin then osize else 0)
    let deltasAt := outsAt + n * osize
    let inputsAt := deltasAt + n * tsize
    let fout := if fin ∧ osize ≠ 0 then (le a first osize).getD 0 else 0
    -- transition j (ascending) is stored at reversed position n-1-j
    let ts := (List.range n).filterMap fun j =>
      let r := n - 1 - j
      match le a (deltasAt + r * tsize) tsize with
      | none => none
      | some delta =>
        let out := if osize = 0 then 0 else (le a (outsAt + r * osize) osize).getD 0
        some (a.getD (inputsAt + r) 0, out, target first delta)
    if ts.length ≠ n then none else
    some ⟨fin, fout, ts, first, addr⟩

/-- the map spelled from an address, and the nodes visited -/
def walk (version : Nat) (a : Array UInt8) : Nat → Nat → List UInt8 → Nat →
    Option (List (List UInt8 × Nat) × List SNode)
  | 0, _, _, _ => none
  | fuel+1, addr, pfx, out =>
    match parseNode version a addr with
    | none => none
    | some n =>
      let own := if n.fin then [(pfx.reverse, out + n.fout)] else []
      let rec goT (ts : List (UInt8 × Nat × Nat)) (kvs : List (List UInt8 × Nat)) (ns : List SNode) :
          Option (List (List UInt8 × Nat) × List SNode) :=
        match ts with
        | [] => some (kvs, ns)
        | (b, o, tgt) :: rest =>
          if tgt ≥ addr ∧ addr ≠ 0 then none else   -- targets must be earlier nodes
          match walk version a fuel tgt (b :: pfx) (out + o) with
          | none => none
          | some (k2, n2) => goT rest (kvs ++ k2) (ns ++ n2)
      goT n.trans own (if addr = 0 then [] else [n])

structure Parsed where
  version : Nat
  ty : Nat
  len : Nat
  kvs : List (List UInt8 × Nat)
  tiled : Bool
deriving Repr, Inhabited

/-- distinct extents sorted by first byte tile the body (16 .. root) exactly -/
def tiles (ns : List SNode) (root : Nat) : Bool :=
  let ext := ns.map fun n => (n.first, n.last)
  let rec ins (p : Nat × Nat) : List (Nat × Nat) → List (Nat × Nat)
    | [] => [p]
    | q :: qs => if p.1 < q.1 then p :: q :: qs else if p == q then q :: qs else q :: ins p qs
  let sorted := ext.foldr ins []
  let rec chk (pos : Nat) : List (Nat × Nat) → Bool
    | [] => pos == root + 1
    | (f, l) :: rest => f == pos && f ≤ l && chk (l + 1) rest
  if root = 0 then sorted.isEmpty else chk 16 sorted

def parseFst (bytes : List UInt8) : Option Parsed :=
  let a := bytes.toArray
  match le a 0 8, le a 8 8 with
  | some version, some ty =>
    if version = 0 ∨ version > VERSION_MAX then none else
    let foot := if version ≥ 3 then 4 else 0
    if a.size < 32 + foot then none else
    let e := a.size - foot
    match le a (e - 16) 8, le a (e - 8) 8 with
    | some len, some root =>
      if root ≠ 0 ∧ root + 17 + foot ≠ a.size then none else
      if root = 0 ∧ a.size ≠ 32 + foot then none else
      match walk version a (a.size + 2) root [] 0 with
      | none => none
      | some (kvs, ns) => some ⟨version, ty, len, kvs, tiles ns root⟩
    | _, _ => none
  | _, _ => none

end Fst.Spec
