/-
Levenshtein edit distance between two lists of scalar values, written from
the textbook definition (insertions, deletions, substitutions; every
operation costs 1). Shares no code with Model/Lev.lean.
`lev` is the textbook recurrence on the heads; `lev_eq_iff` ties it to edit scripts (`Edit`): it is the
least cost of a script. Scripts can be read from the other end (`Edit.reverse`), which gives the
recurrence on the last elements (`lev_snoc_snoc`) that a left-to-right dynamic program uses.
Metric facts that the proofs draw on are here too: `lev_self`, `lev_eq_zero`, `lev_le_max`,
`lev_ge_sub_left` / `_right`, `lev_reverse`, `lev_ins_le` / `lev_del_le`, `Edit.append`.
-/
namespace Fst.Spec

/-- `levCons a (lev q) k = lev (a :: q) k`: the recurrence on `k` for a fixed head `a` -/
def levCons (a : Nat) (levq : List Nat → Nat) : List Nat → Nat
  | [] => levq [] + 1
  | b :: k =>
    min (min (levq (b :: k) + 1) (levCons a levq k + 1)) (levq k + (if a = b then 0 else 1))

/-- edit distance (structural recursion on the first list, then on the second) -/
def lev : List Nat → List Nat → Nat
  | [] => List.length
  | a :: q => levCons a (lev q)

@[simp] theorem lev_nil_left (k : List Nat) : lev [] k = k.length := rfl

@[simp] theorem lev_nil_right (q : List Nat) : lev q [] = q.length := by
  induction q with
  | nil => rfl
  | cons a q ih => simp only [lev, levCons, List.length_cons]; rw [ih]

theorem lev_cons_cons (a b : Nat) (q k : List Nat) :
    lev (a :: q) (b :: k) =
      min (min (lev q (b :: k) + 1) (lev (a :: q) k + 1)) (lev q k + (if a = b then 0 else 1)) := rfl

/-- `Edit q k n`: some sequence of `n` single-element insertions, deletions and
substitutions (and any number of kept elements) turns `q` into `k` -/
inductive Edit : List Nat → List Nat → Nat → Prop
  | nil : Edit [] [] 0
  | keep (a : Nat) {q k : List Nat} {n : Nat} : Edit q k n → Edit (a :: q) (a :: k) n
  | sub (a b : Nat) {q k : List Nat} {n : Nat} : Edit q k n → Edit (a :: q) (b :: k) (n + 1)
  | del (a : Nat) {q k : List Nat} {n : Nat} : Edit q k n → Edit (a :: q) k (n + 1)
  | ins (b : Nat) {q k : List Nat} {n : Nat} : Edit q k n → Edit q (b :: k) (n + 1)

theorem edit_nil_left (k : List Nat) : Edit [] k k.length := by
  induction k with
  | nil => exact .nil
  | cons b k ih => exact .ins b ih

theorem edit_nil_right (q : List Nat) : Edit q [] q.length := by
  induction q with
  | nil => exact .nil
  | cons a q ih => exact .del a ih

theorem lev_ins_le (b : Nat) (q k : List Nat) : lev q (b :: k) ≤ lev q k + 1 := by
  cases q with
  | nil => simp
  | cons a q => rw [lev_cons_cons]; omega

theorem lev_del_le (a : Nat) (q k : List Nat) : lev (a :: q) k ≤ lev q k + 1 := by
  cases k with
  | nil => simp
  | cons b k => rw [lev_cons_cons]; omega

theorem lev_le_of_edit {q k : List Nat} {n : Nat} (h : Edit q k n) : lev q k ≤ n := by
  induction h with
  | nil => simp
  | keep a _ ih => rw [lev_cons_cons]; simp only [if_true]; omega
  | sub a b _ ih => rw [lev_cons_cons]; split <;> omega
  | @del a q k n _ ih => have := lev_del_le a q k; omega
  | @ins b q k n _ ih => have := lev_ins_le b q k; omega

theorem min3_cases {P : Nat → Prop} {x y z : Nat} (hx : P x) (hy : P y) (hz : P z) :
    P (min (min x y) z) := by
  simp only [Nat.min_def]
  split <;> split <;> assumption

theorem edit_lev (q k : List Nat) : Edit q k (lev q k) := by
  induction q generalizing k with
  | nil => exact edit_nil_left k
  | cons a q ihq =>
    induction k with
    | nil => rw [lev_nil_right]; exact edit_nil_right _
    | cons b k ihk =>
      rw [lev_cons_cons]
      have h1 : Edit (a :: q) (b :: k) (lev q (b :: k) + 1) := .del a (ihq _)
      have h2 : Edit (a :: q) (b :: k) (lev (a :: q) k + 1) := .ins b ihk
      have h3 : Edit (a :: q) (b :: k) (lev q k + (if a = b then 0 else 1)) := by
        by_cases e : a = b
        · subst e; simp only [if_true, Nat.add_zero]; exact .keep a (ihq _)
        · simp only [e, if_false]; exact .sub a b (ihq _)
      exact min3_cases (P := Edit (a :: q) (b :: k)) h1 h2 h3

/-- `lev q k` is the least cost of an edit script from `q` to `k` -/
theorem lev_eq_iff (q k : List Nat) (n : Nat) :
    lev q k = n ↔ Edit q k n ∧ ∀ m, Edit q k m → n ≤ m := by
  constructor
  · intro h; subst h; exact ⟨edit_lev q k, fun m hm => lev_le_of_edit hm⟩
  · intro ⟨h1, h2⟩
    exact Nat.le_antisymm (lev_le_of_edit h1) (h2 _ (edit_lev q k))

theorem Edit.append {q k q' k' : List Nat} {n m : Nat} (h : Edit q k n) (h' : Edit q' k' m) :
    Edit (q ++ q') (k ++ k') (m + n) := by
  induction h with
  | nil => exact h'
  | keep x _ ih => exact .keep x ih
  | sub x y _ ih => exact .sub x y ih
  | del x _ ih => exact .del x ih
  | ins y _ ih => exact .ins y ih

theorem Edit.reverse {q k : List Nat} {n : Nat} (h : Edit q k n) :
    Edit q.reverse k.reverse n := by
  induction h with
  | nil => exact .nil
  | keep x _ ih =>
    have := ih.append (.keep x .nil)
    simp only [List.reverse_cons]
    rwa [Nat.zero_add] at this
  | sub x y _ ih =>
    have := ih.append (.sub x y .nil)
    simp only [List.reverse_cons]
    rwa [Nat.add_comm] at this
  | del x _ ih =>
    have := ih.append (.del x .nil)
    simp only [List.reverse_cons]
    rwa [List.append_nil, Nat.add_comm] at this
  | ins y _ ih =>
    have := ih.append (.ins y .nil)
    simp only [List.reverse_cons]
    rwa [List.append_nil, Nat.add_comm] at this

theorem lev_reverse_le (q k : List Nat) : lev q.reverse k.reverse ≤ lev q k :=
  lev_le_of_edit (edit_lev q k).reverse

theorem lev_reverse (q k : List Nat) : lev q.reverse k.reverse = lev q k := by
  apply Nat.le_antisymm (lev_reverse_le q k)
  have := lev_reverse_le q.reverse k.reverse
  simpa only [List.reverse_reverse] using this

theorem lev_snoc_snoc (a b : Nat) (q k : List Nat) :
    lev (q ++ [a]) (k ++ [b]) =
      min (min (lev q (k ++ [b]) + 1) (lev (q ++ [a]) k + 1)) (lev q k + (if a = b then 0 else 1)) := by
  have e1 := lev_reverse (q ++ [a]) (k ++ [b])
  have e2 := lev_reverse q (k ++ [b])
  have e3 := lev_reverse (q ++ [a]) k
  have e4 := lev_reverse q k
  simp only [List.reverse_append, List.reverse_cons, List.reverse_nil, List.nil_append,
    List.cons_append] at e1 e2 e3
  rw [← e1, ← e2, ← e3, ← e4, lev_cons_cons]

theorem lev_snoc_nil (a : Nat) (q : List Nat) : lev (q ++ [a]) [] = q.length + 1 := by simp

theorem lev_nil_snoc (b : Nat) (k : List Nat) : lev [] (k ++ [b]) = k.length + 1 := by simp

theorem lev_le_max (q k : List Nat) : lev q k ≤ max q.length k.length := by
  induction q generalizing k with
  | nil => simp
  | cons a q ihq =>
    cases k with
    | nil => simp
    | cons b k =>
      rw [lev_cons_cons]
      have h3 : lev q k + (if a = b then 0 else 1) ≤ lev q k + 1 := by split <;> omega
      have := ihq k
      simp only [List.length_cons]
      exact Nat.le_trans (Nat.min_le_right _ _) (Nat.le_trans h3 (by omega))

theorem Edit.length_le {q k : List Nat} {n : Nat} (h : Edit q k n) :
    q.length ≤ k.length + n ∧ k.length ≤ q.length + n := by
  induction h with
  | nil => exact ⟨Nat.le_refl _, Nat.le_refl _⟩
  | keep | sub | del | ins => simp only [List.length_cons]; omega

theorem lev_ge_sub_left (q k : List Nat) : q.length - k.length ≤ lev q k := by
  have := (edit_lev q k).length_le
  omega

theorem lev_ge_sub_right (q k : List Nat) : k.length - q.length ≤ lev q k := by
  have := (edit_lev q k).length_le
  omega

theorem lev_self (q : List Nat) : lev q q = 0 := by
  induction q with
  | nil => rfl
  | cons a q ih => rw [lev_cons_cons]; simp only [if_true]; omega

theorem Edit.eq_of_zero {q k : List Nat} {n : Nat} (h : Edit q k n) (hn : n = 0) : q = k := by
  induction h with
  | nil => rfl
  | keep a _ ih => rw [ih hn]
  | sub | del | ins => omega

theorem lev_eq_zero {q k : List Nat} (h : lev q k = 0) : q = k :=
  (edit_lev q k).eq_of_zero h

example : lev [107, 105, 116, 116, 101, 110] [115, 105, 116, 116, 105, 110, 103] = 3 := by decide
example : lev [1, 2, 3] [1, 3] = 1 := by decide
example : lev [1, 2, 3] [3, 2, 1] = 2 := by decide
example : lev [1, 2] [3, 4, 5] = 3 := by decide
example : Edit [1, 2, 3] [1, 3] 1 := .keep 1 (.del 2 (.keep 3 .nil))

end Fst.Spec
